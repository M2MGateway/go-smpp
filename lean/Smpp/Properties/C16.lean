/-
C16 — Unsolicited PDUs are delivered once and in order; bad PDUs are NACKed, not fatal.

Over the transition system of conn.go, for every reachable state (every inbound history mixing peer-originated PDUs,
responses and undecodable frames, every consumer speed).  Independence of the fragmentation of the inbound octet
stream is C03 (ReadPDU re-frames any fragmentation); the classification of a frame into
decodable / body error with header / fatal is the byte-level model of C03 / C04.
-/
import Smpp.Proofs.ConnProgress
import Smpp.Properties.ConnSource

namespace Smpp.Properties.C16
open Smpp.Conn Smpp.Generated

/-! ## expectations on regenerated facts -/

/-- the dispatch in Watch: EOF and errors without a PDU end the loop; an error WITH a partially decoded PDU is answered by
generic_nack carrying its sequence number and the error's status (or ErrUnknownError, never 0), then `continue`; a decoded
PDU goes to its waiter or, failing that, to the queue -/
theorem watch_dispatch : connSrc_Conn_Watch.drop 4 = [
  "Conn.Watch: for { select { case <-c.ctx.Done(): return default: } if c.ReadTimeout > 0 { _ = c.parent.SetReadDeadline(time.Now().Add(c.ReadTimeout)) } if packet, err = ReadPDU(c.parent); err == io.EOF { return } else if status, ok := err.(CommandStatus); err != nil { if packet == nil { return } else if !ok { status = ErrUnknownError } sequence := ReadSequence(packet) _ = c.Send(&GenericNACK{ Header: Header{CommandStatus: status, Sequence: sequence}, Tags: Tags{0xFFFF: []byte(err.Error())}, }) continue } else if callback, ok := c.lookup(ReadSequence(packet)); ok { callback(packet) } else { select { case <-c.ctx.Done(): return case c.receiveQueue <- packet: } } }"] := rfl

/-- the queue is unbuffered: Watch hands a PDU over only when the application takes it, so nothing is dropped for want of room -/
theorem queue_unbuffered : connSrc_NewConn = [
  "NewConn: ctx, cancel := context.WithCancel(ctx)",
  "NewConn: return &Conn{ parent: parent, ctx: ctx, cancel: cancel, receiveQueue: make(chan interface{}), pending: make(map[int32]func(interface{})), NextSequence: rand.Int31, ReadTimeout: time.Minute * 15, WriteTimeout: time.Minute * 15, }"] := rfl

/-! ## every reachable state -/

/-- **in order, at most once**: what the application received is a prefix of the PDUs Watch found no waiter for, in the
order it took them from the transport; those are a subsequence of the decodable frames read so far -/
theorem C16_order (tbl) (hd : Distinct tbl) (hf : Fresh tbl) (s : State) (h : Reach tbl s) :
    s.delivered <+: s.missLog ∧ s.missLog.Sublist (okPdus s.readLog) := by
  obtain ⟨_, _, i3, i4⟩ := inv_all tbl hd hf s h
  exact ⟨i3.missBound.1, (List.sublist_append_left _ _).trans i4.missSub⟩

/-- **exactly once**: while Watch is in its loop every such PDU has been delivered, except the one it is handing over right now -/
theorem C16_exactly_once (tbl) (hd : Distinct tbl) (hf : Fresh tbl) (s : State) (h : Reach tbl s)
    (hl : s.watch.inLoop = true) : s.missLog = s.delivered ++ offerTail s :=
  (inv3 tbl hd hf s h).missExact hl

/-- never more than one PDU is held back, even during teardown -/
theorem C16_at_most_one_held (tbl) (hd : Distinct tbl) (hf : Fresh tbl) (s : State) (h : Reach tbl s) :
    s.missLog.length ≤ s.delivered.length + 1 :=
  (inv3 tbl hd hf s h).missBound.2

/-- arrival order is the transport's: frames are only ever appended behind those not yet read -/
theorem C16_fifo (s s' : State) (l : Label) (h : step s l = some s') :
    ∃ x, s'.readLog ++ s'.inbound = s.readLog ++ s.inbound ++ x := by
  have hs := step_sound s s' l h
  cases hs
  case wReadOk hin | wReadBad hin | wReadFatal hin => exact ⟨[], by simp [hin]⟩
  case peerAnswer | peerUnsol | peerBad | peerFatal => exact ⟨_, (List.append_assoc ..).symm⟩
  all_goals exact ⟨[], (List.append_nil _).symm⟩

/-- **one generic_nack per undecodable frame with a positive sequence number**, carrying that number, in order — and nothing
is delivered for it (it never enters `missLog`, see C16_order: only decodable frames do) -/
theorem C16_nacks (tbl) (s : State) (h : Reach tbl s) (hb : s.writeBroken = false) :
    s.wire.filter isNack ++ nackTail s = (badSeqs s.readLog).map OutFrame.nack :=
  nack_inv tbl s h hb

/-- **not fatal**: after the NACK the loop goes on — Watch is back at the top of its loop -/
theorem C16_continues (s s' : State) (h : step s .wNack = some s') : s'.watch = .poll := by
  have hs := step_sound s s' _ h
  cases hs <;> rfl

/-- and from there it reads again unless the connection context is done -/
theorem C16_reads_on (s : State) (hw : s.watch = .poll) (hc : s.connDone = false) :
    ∃ s', step s .wPoll = some s' ∧ s'.watch = .reading :=
  ⟨{ s with watch := if s.connDone then .exiting else .reading }, by simp [step, hw], by simp [hc]⟩

/-! ## non-vacuity: unsolicited, bad (positive and zero sequence), unsolicited — slow consumer -/
def tbl0 : Nat → Caller := fun _ => { kind := .send, seq := 0, after := none }

example : ((run (init tbl0) [.peerUnsol 3 1, .peerBad 44 2, .peerBad 0 3, .peerUnsol 4 4,
    .wPoll, .wRead, .wLookup, .setDrain false, .setDrain true, .wOffer, .wPoll, .wRead, .wNack, .wPoll, .wRead, .wNack,
    .wPoll, .wRead, .wLookup, .wOffer]).map fun s => (s.delivered, s.wire, s.watch))
    = some ([⟨3, .peer 1⟩, ⟨4, .peer 4⟩], [.nack 44], .poll) := by decide +kernel

/-! ## completeness at rest (goroutine steps are finitely many: `C05_no_livelock` / `mu_decreases`) -/

/-- **nothing is left behind**: in every state at rest with the connection live and the application draining, Watch is back
in Read with nothing unread, every PDU that found no waiter HAS been handed to the application (in order, once), and every
undecodable frame with a positive sequence number HAS been answered by its generic_nack -/
theorem C16_complete_at_rest (tbl) (hd : Distinct tbl) (hf : Fresh tbl) (s : State) (hr : ReachP tbl s) (hq : Quiescent s)
    (hconn : s.connDone = false) (hdrain : s.draining = true) :
    s.watch = .reading ∧ s.inbound = [] ∧ s.delivered = s.missLog ∧
    (s.writeBroken = false → s.wire.filter isNack = (badSeqs s.readLog).map OutFrame.nack) := by
  obtain ⟨hw, hin⟩ := reading_at_rest tbl hd hf s hr hq hconn hdrain
  refine ⟨hw, hin, ?_, fun hb => ?_⟩
  · have := (inv3 tbl hd hf s hr.reach).missExact (by rw [hw]; rfl)
    simpa [offerTail, hw] using this.symm
  · simpa [nackTail, hw] using nack_inv tbl s hr.reach hb

end Smpp.Properties.C16

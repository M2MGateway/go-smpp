/-
C02 — Marshal and ReadPDU agree with the SMPP v5 wire layout, field by field.
-/
import Smpp.Proofs.Lits
import Smpp.Properties.SrcPduCodec
import Smpp.Properties.SrcPduFrame
import Smpp.Proofs.SpecLayout
import Smpp.Proofs.Roundtrip
import Smpp.Generated.Layouts
import Smpp.Generated.PduFacts

namespace Smpp.Properties.C02
open Smpp.Pdu Smpp.Generated

/-! ## the regenerated Go layouts against the independent specification table -/

/-- mandatory parameters of a Go struct: everything after the header except the TLV map -/
def goParams (L : Layout) : List (String × Kind) :=
  ((L.fields.drop 1).filter (fun f => f.kind != .tags)).map (fun f => (f.name, f.kind))

def hasTags (L : Layout) : Bool := L.fields.any (fun f => f.kind == .tags)

def layoutMatches (L : Layout) : Bool :=
  match Spec.specOf L.id with
  | some op => goParams L == op.params.map (fun p => (p.goField, p.kind))
  | none => false

/-- KNOWN FINDING C02-queryresp-errorcode: every operation's mandatory parameters — names, order
and field kinds — are those of SMPP v5 §4, except that query_sm_resp's `error_code`
(a one-octet integer in the specification) is a field the codec skips.  A swapped, missing,
added or re-typed field in packet.go changes the regenerated layouts and breaks this lemma. -/
theorem table_matches_except_known :
    (pduLayouts.filter (fun L => !layoutMatches L)).map (·.name) = ["QuerySMResp"] := by decide +kernel

/-- … and for query_sm_resp the difference is exactly the kind of that one field. -/
theorem queryresp_difference :
    (pduLayouts.find? (·.name == "QuerySMResp")).map goParams
      = some [("MessageID", .cstr), ("FinalDate", .cstr), ("MessageState", .u8), ("ErrorCode", .skipped "uint32")] := by
  decide +kernel

/-- The specification covers exactly the 33 registered command ids. -/
theorem ids_covered :
    (Spec.smppV5.map (·.id)).all (fun i => pduLayouts.any (·.id == i)) = true ∧
    Spec.smppV5.length = pduLayouts.length := by decide +kernel

/-- Where the Go struct and the specification disagree on the presence of optional TLVs
(DESIGN.md §9.2): two structs carry a Tags field the specification lacks (empty ⇒ no octets),
one lacks the field although the specification allows TLVs. -/
theorem tlv_presence :
    (pduLayouts.filter (fun L => match Spec.specOf L.id with
        | some op => hasTags L != op.tlvs
        | none => true)).map (·.name) = ["EnquireLink", "GenericNACK", "SubmitSMResp"] := by decide +kernel

/-- esm_class / registered_delivery: the statements the model's bit codecs transcribe. -/
theorem bit_codec_source : bitCodecStmts = [
  "ESMClass.ReadByte: c |= e.MessageMode & 0b11",
  "ESMClass.ReadByte: c |= e.MessageType & 0b1111 << 2",
  "ESMClass.ReadByte: c |= getBool(e.UDHIndicator) << 6",
  "ESMClass.ReadByte: c |= getBool(e.ReplyPath) << 7",
  "ESMClass.ReadByte: return",
  "ESMClass.WriteByte: e.MessageMode = c & 0b11",
  "ESMClass.WriteByte: e.MessageType = c >> 2 & 0b1111",
  "ESMClass.WriteByte: e.UDHIndicator = c>>6&0b1 == 1",
  "ESMClass.WriteByte: e.ReplyPath = c>>7&0b1 == 1",
  "ESMClass.WriteByte: return nil",
  "RegisteredDelivery.ReadByte: c |= r.MCDeliveryReceipt & 0b11",
  "RegisteredDelivery.ReadByte: c |= r.SMEOriginatedAcknowledgment & 0b11 << 2",
  "RegisteredDelivery.ReadByte: c |= getBool(r.IntermediateNotification) << 4",
  "RegisteredDelivery.ReadByte: c |= r.Reserved & 0b111 << 5",
  "RegisteredDelivery.ReadByte: return",
  "RegisteredDelivery.WriteByte: r.MCDeliveryReceipt = c & 0b11",
  "RegisteredDelivery.WriteByte: r.SMEOriginatedAcknowledgment = c >> 2 & 0b11",
  "RegisteredDelivery.WriteByte: r.IntermediateNotification = c>>4&0b1 == 1",
  "RegisteredDelivery.WriteByte: r.Reserved = c >> 5 & 0b111",
  "RegisteredDelivery.WriteByte: return nil"] := rfl

/-- the encoders' size guards (what makes an unrepresentable value an error) -/
theorem encoder_guards :
    pduGuards.filter (fun g => g.startsWith "pdu/address.go" || g.startsWith "pdu/tag.go Tags.WriteTo"
        || g.startsWith "pdu/udh.go UserDataHeader.WriteTo" || g.startsWith "pdu/message.go ShortMessage.WriteTo") = [
      "pdu/message.go ShortMessage.WriteTo: len(p.Message) > MaxShortMessageLength",
      "pdu/message.go ShortMessage.WriteTo: len(data)-1-start > 0xFF",
      "pdu/udh.go UserDataHeader.WriteTo: len(data) > 0xFF",
      "pdu/udh.go UserDataHeader.WriteTo: len(data)-1 > 0xFF",
      "pdu/tag.go Tags.WriteTo: length < 0xFFFF",
      "pdu/address.go Address.String: len(p.No) > 0",
      "pdu/address.go DestinationAddresses.WriteTo: length > 0xFF",
      "pdu/address.go UnsuccessfulRecords.WriteTo: len(p) > 0xFF"] :=
  Lits.filter (fun l => congrArg₂ or (congrArg₂ or (congrArg₂ or (startsWith_ofList l _) (startsWith_ofList l _))
      (startsWith_ofList l _)) (startsWith_ofList l _)) (by repeat constructor) (by repeat constructor) (by decide +kernel)

/-- **C02, encoding.**  For a representable value the frame Marshal writes is the frame the
specification prescribes for the operation with this command_id: 16-octet big-endian header
with command_length = frame size, then each parameter as the specification lays it out, then
the (non-empty) TLVs in ascending tag order — one of the orders the specification allows. -/
theorem C02_encode (L : Layout) (op : Spec.Op) (hid : op.id = L.id) (hidlt : L.id < 4294967296)
    (h : Header) (rest : List FVal)
    (hwf : ∀ x ∈ rest, FValWF L.isReplace (udhiOf L.fields (.header h :: rest)) x)
    (b : Bytes) (after : List FVal) (hm : marshal L (.header h :: rest) = ⟨.ok b, after⟩)
    (hst : h.status = 0) (hlen : b.length ≤ 65536) :
    b = Spec.frame op L.isReplace 0 h.seq.toNat after.tail := by
  obtain ⟨_, body, rest', he, rfl, rfl⟩ := marshal_ok_iff.mp hm
  rw [encBody, hst] at he
  have hbody := encFields_spec L.isReplace _ rest body rest' hwf he
  rw [List.length_append, encHeader_length] at hlen
  simp only [List.tail_cons, Spec.frame, ← hbody, hid]
  simp only [encHeader, be32_int4, UInt32.toNat_ofNat_of_lt' (show 16 + body.length < 4294967296 by omega),
    UInt32.toNat_ofNat_of_lt' hidlt, hst]
  rfl

/-- **C02, unrepresentable values.**  If Marshal succeeds then every length-prefixed field of
the (prepared) value fits its length field: a value that cannot be expressed — more than 255
destinations or records, a TLV above 65534 octets, a UDH element or a UDH above 255 octets,
UDH plus message above what the one-octet sm_length can state — makes Marshal report an error. -/
theorem C02_unrepresentable (rp U : Bool) (v v' : FVal) (b : Bytes)
    (he : encField rp U v = .ok (b, v')) : Spec.expressible v' = true := by
  obtain ⟨hv, rfl⟩ := encField_ok_iff.mp he
  cases v with
  | dests d => simpa [afterEnc, Spec.expressible] using (encDests_ok_iff.mp hv).1
  | unsucc l => simpa [afterEnc, Spec.expressible] using (encUnsucc_ok_iff.mp hv).1
  | tags t =>
    simp only [afterEnc, Spec.expressible, List.all_eq_true, decide_eq_true_eq]
    exact fun kv hkv => Nat.le_of_lt ((encTagsSorted_ok_iff.mp hv).1 kv hkv)
  | sm m =>
    simp only [afterEnc] at hv ⊢
    generalize prepare rp U m = m' at hv ⊢
    obtain ⟨defId, dc, udh, msg⟩ := m'
    obtain ⟨_, u, hu, htot, _⟩ := encSm_ok_iff.mp hv
    rcases udh with _ | els
    · cases hu
      simpa [Spec.expressible] using htot
    · obtain ⟨hel, hbody, rfl⟩ := encUdh_some_ok_iff.mp hu
      have hsum := udhBody_length els
      simp only [List.length_cons] at htot
      simp only [Spec.expressible, Bool.and_eq_true, decide_eq_true_eq, List.all_eq_true]
      exact ⟨⟨hel, by omega⟩, by omega⟩
  | _ => rfl

/-! ## non-vacuity -/
example : Spec.frame ⟨"unbind", 6, [], false⟩ false 0 9 [] = [0, 0, 0, 16, 0, 0, 0, 6, 0, 0, 0, 0, 0, 0, 0, 9] := by
  decide

end Smpp.Properties.C02

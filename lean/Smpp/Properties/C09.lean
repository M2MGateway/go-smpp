/-
C09 — The auto-detected data coding can always represent the text.

Decided for ALL 1,112,064 scalar values at once from the interval lists that an exhaustive dump
of the implementation regenerates on every run (DataCoding.Validate per coding, encoder
acceptance per coding), as inclusions between bitmaps.
-/
import Smpp.Properties.SrcCoding
import Smpp.Properties.SrcPduAccess
import Smpp.Proofs.Bitmap
import Smpp.Proofs.Lits
import Smpp.Generated.CodingFacts
import Smpp.Properties.C09Known

namespace Smpp.Properties.C09
open Smpp.Coding Smpp.Generated Smpp.Properties.C09Known

/-- Validate(c) / encoder acceptance / committed known-bad set, per data_coding -/
def V : Nat → List (Nat × Nat)
  | 0 => validate_0 | 1 => validate_1 | 3 => validate_3 | 5 => validate_5 | 6 => validate_6
  | 7 => validate_7 | 8 => validate_8 | 14 => validate_14 | _ => []
def A : Nat → List (Nat × Nat)
  | 0 => accept_0 | 1 => accept_1 | 3 => accept_3 | 5 => accept_5 | 6 => accept_6
  | 7 => accept_7 | 8 => accept_8 | 14 => accept_14 | _ => []
def K : Nat → List (Nat × Nat)
  | 3 => knownBad_3 | 5 => knownBad_5 | 6 => knownBad_6 | 7 => knownBad_7 | 14 => knownBad_14 | _ => []

def validate (c r : Nat) : Bool := inIv (V c) r
def accepts (c r : Nat) : Bool := inIv (A c) r
def knownBad (c r : Nat) : Bool := inIv (K c) r

/-! ## expectations on regenerated facts -/

/-- BestCoding tries GSM 7-bit, ASCII, Latin-1, Cyrillic, Hebrew, Shift-JIS, EUC-KR in this order,
then UCS-2; BestSafeCoding only GSM 7-bit, then UCS-2 -/
theorem detector_source :
    codingStmts.filter (fun s => s.startsWith "Best") = [
      "BestCoding: codings := []DataCoding{ GSM7BitCoding, ASCIICoding, Latin1Coding, CyrillicCoding, HebrewCoding, ShiftJISCoding, EUCKRCoding, }",
      "BestCoding: for _, coding := range codings { if coding.Validate(input) { return coding } }",
      "BestCoding: return UCS2Coding",
      "BestSafeCoding: if GSM7BitCoding.Validate(input) { return GSM7BitCoding }",
      "BestSafeCoding: return UCS2Coding"] :=
  Lits.filter (startsWith_ofList · _) (by repeat constructor) (by repeat constructor) (by decide +kernel)

theorem coding_constants : codingConsts = [
  ("ASCIICoding", 1), ("CyrillicCoding", 6), ("EUCJPCoding", 13), ("EUCKRCoding", 14),
  ("GSM7BitCoding", 0), ("HebrewCoding", 7), ("ISO2022JPCoding", 10), ("Latin1Coding", 3),
  ("NoCoding", 191), ("ShiftJISCoding", 5), ("UCS2Coding", 8)] := rfl

/-! ## the finite obligations: Validate(c) ⊆ accept(c) ∪ known(c) -/

/-- **C09, per scalar (partial: known finding C09-script-tables).**  Whatever coding of the priority
list validates a scalar value, its encoder accepts that value — unless the value lies in the
committed known-bad set of that coding (Unicode script tables used as repertoires). -/
theorem C09_rune_partial (c : Nat) (hc : c ∈ priority) (r : Nat) (hv : validate c r = true) :
    accepts c r = true ∨ knownBad c r = true := by
  simp only [priority, List.mem_cons, List.not_mem_nil, or_false] at hc
  -- per coding one evaluation on bitmaps; `repeat constructor` reads the parts of the generated `++` chains (`Bitmap.Concat`)
  rcases hc with rfl | rfl | rfl | rfl | rfl | rfl | rfl <;>
    exact Bitmap.covered (by repeat constructor) (by repeat constructor) (by decide +kernel) r hv

/-- the UTF-16 encoder accepts every scalar value -/
theorem ucs2_accepts_all (r : Nat) (hs : isScalar r = true) : accepts 8 r = true := by
  -- an inclusion of interval lists is `Bitmap.covered` with nothing known-bad
  refine (Bitmap.covered (V := [(0, 0xD7FF), (0xE000, 0x10FFFF)]) (K := []) (by repeat constructor)
    (by repeat constructor) (by decide +kernel) r ?_).resolve_right
    (by simp [inIv])
  simp only [isScalar, Bool.or_eq_true, Bool.and_eq_true, decide_eq_true_eq] at hs
  simp only [inIv, List.any_cons, List.any_nil, Bool.or_eq_true, Bool.and_eq_true, decide_eq_true_eq]
  omega

/-- what BestCoding returns: a coding of the list that validates every rune, or UCS-2 -/
theorem bestCoding_spec (v : Nat → Nat → Bool) (t : List Nat) :
    (bestCoding v t ∈ priority ∧ t.all (v (bestCoding v t)) = true) ∨ bestCoding v t = ucs2 := by
  unfold bestCoding
  cases h : priority.find? (fun c => t.all (v c)) with
  | none => exact .inr rfl
  | some c => exact .inl ⟨List.mem_of_find?_eq_some h, by simpa using List.find?_some h⟩

/-- **C09, texts (partial).**  For every text of scalar values, every rune of the text is accepted by
the encoder of the coding BestCoding returns, or lies in that coding's known-bad set. -/
theorem C09_text_partial (t : List Nat) (hs : t.all isScalar = true) (r : Nat) (hr : r ∈ t) :
    accepts (bestCoding validate t) r = true ∨ knownBad (bestCoding validate t) r = true := by
  rcases bestCoding_spec validate t with ⟨hc, hall⟩ | h8
  · exact C09_rune_partial _ hc r (List.all_eq_true.mp hall r hr)
  · rw [h8]
    exact Or.inl (ucs2_accepts_all r (List.all_eq_true.mp hs r hr))

/-- **BestSafeCoding, full strength** (no exception): GSM 7-bit only when every rune is in the
encoder's repertoire, else UCS-2, which accepts everything. -/
theorem C09_safe (t : List Nat) (hs : t.all isScalar = true) (r : Nat) (hr : r ∈ t) :
    accepts (bestSafeCoding validate t) r = true := by
  unfold bestSafeCoding
  split
  · next h =>
    -- GSM 7-bit has no known-bad set
    exact (C09_rune_partial 0 (by simp [priority]) r (List.all_eq_true.mp h r hr)).resolve_right
      (by simp [knownBad, K, inIv])
  · exact ucs2_accepts_all r (List.all_eq_true.mp hs r hr)

/-! ## known finding: the full-strength statement is false -/

def C09_full : Prop := ∀ r, isScalar r = true → accepts (bestCoding validate [r]) r = true

/-- KNOWN FINDING C09-script-tables, witnesses: U+0100 → Latin-1, U+05B0 → Hebrew (both pinned by
TestBestCoding), U+0460 → Cyrillic; each rejected by the chosen coding's encoder. -/
theorem C09_cex_latin1 : ¬ C09_full := fun h => absurd (h 0x100 (by decide)) (by decide +kernel)

theorem C09_cex_values :
    bestCoding validate [0x100] = 3 ∧ accepts 3 0x100 = false ∧
    bestCoding validate [0x5B0] = 7 ∧ accepts 7 0x5B0 = false ∧
    bestCoding validate [0x460] = 6 ∧ accepts 6 0x460 = false := by decide +kernel

/-! ## non-vacuity -/
example : bestCoding validate [0x41, 0x20AC] = 0 ∧ bestCoding validate [0x41, 0x410] = 6 ∧
    bestCoding validate [0x1F48A] = 8 := by decide +kernel

end Smpp.Properties.C09

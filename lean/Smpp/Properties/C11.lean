/-
C11 — No PDU accepted from the network can crash its consumer.

Proved for ARBITRARY values of the decoded types (stronger than "decodable from bytes", so no
reachability argument is needed).  Operations without any partial step in the source
(ReadSequence, ReadCommandStatus, Resp(), the fmt-based String methods of ESMClass /
RegisteredDelivery / DataCoding / InterfaceVersion, map-lookup based CommandID.String and
CommandStatus.String) are covered by the regenerated panic-site inventory; Parse's decoders are
total (GSM 7-bit: C08 model; the others are golang.org/x/text, trusted).
-/
import Smpp.Proofs.Lits
import Smpp.Properties.SrcGsm7
import Smpp.Properties.SrcPduAccess
import Smpp.Properties.SrcCombine
import Smpp.Proofs.CombinerProofs
import Smpp.Generated.PduFacts

namespace Smpp.Properties.C11
open Smpp.Pdu Smpp.Combiner Smpp.Generated

/-! ## expectations on regenerated facts -/

/-- every index / slice / unchecked assertion in the accessor and combiner files.
`registry[id]…` are map operations except the slot store, modelled by `setSlot`;
`messageStateMap[m]` is modelled by `messageStateString`; `commandIDNames[c]`,
`commandStatusNames[..]`, `types[..]` are map lookups; pdu/time.go's indices are on fixed-size
arrays with constant or loop-bounded indices after the `len(input) != 16` test (and are not
reachable from a decoded PDU without the caller passing a string); `ConcatenatedHeader.Set`
indexes the 4 octets binary.Write just produced. -/
theorem panic_sites_inventory : accessorPanicSites = [
  ("pdu/factory.go|CommandID.String|index", 1),
  ("pdu/factory.go|init|index", 2),
  ("pdu/header_names.go|CommandStatus.String|index", 1),
  ("pdu/message_multipart.go|CombineMultipartDeliverSM|index", 7),
  ("pdu/message_state.go|MessageState.String|index", 1),
  ("pdu/time.go|Duration.From|index", 1),
  ("pdu/time.go|Duration.String|index", 7),
  ("pdu/time.go|Time.From|index", 8),
  ("pdu/time.go|fromTimeString|index", 6),
  ("pdu/time.go|fromTimeString|slice", 3),
  ("pdu/udh_element.go|ConcatenatedHeader.Set|index", 3),
  ("pdu/udh_element.go|ConcatenatedHeader.Set|slice", 1)] := rfl

/-- the guards in front of the partial operations, as the model transcribes them -/
theorem guards_source :
    accessorStmts.filter (fun s => s.startsWith "MessageState" || s.startsWith "UserDataHeader") = [
      "MessageState.String: if int(m) >= len(messageStateMap) { return strconv.Itoa(int(m)) }",
      "MessageState.String: return strings.ToUpper(messageStateMap[m])",
      "UserDataHeader.ConcatenatedHeader: if data, ok := h[0x00]; ok && len(data) >= 3 { return &ConcatenatedHeader{ Reference: uint16(data[0]), TotalParts: data[1], Sequence: data[2], } } else if data, ok = h[0x08]; ok && len(data) >= 4 { return &ConcatenatedHeader{ Reference: binary.BigEndian.Uint16(data[0:2]), TotalParts: data[2], Sequence: data[3], } }",
      "UserDataHeader.ConcatenatedHeader: return nil"] :=
  Lits.filter (fun l => congrArg₂ or (startsWith_ofList l _) (startsWith_ofList l _)) (by repeat constructor) (by repeat constructor)
    (by decide +kernel)

/-- `p.No[0]` in Address.String sits behind `len(p.No) > 0` -/
theorem address_string_guard :
    pduGuards.filter (fun g => g.startsWith "pdu/address.go Address.String") =
      ["pdu/address.go Address.String: len(p.No) > 0"] ∧
    pduPanicSites.filter (fun p => p.1.startsWith "pdu/address.go") =
      [("pdu/address.go|Address.String|index", 1)] :=
  ⟨Lits.filter (startsWith_ofList · _) (by repeat constructor) (by repeat constructor) (by decide +kernel),
   LitFsts.filter (fun l a => startsWith_ofList l _) (by repeat constructor) (by repeat constructor) (by decide +kernel)⟩

theorem state_table : messageStateNames.length = 10 := rfl

/-- extracting the concatenation header never panics, whatever the user data header holds
(elements of any length, either or both ids, or none) -/
theorem C11_concat_total (udh : Option KMap) : (concatHeader udh).isPanic = false := by
  obtain ⟨r, h, _⟩ := concatHeader_ok udh
  rw [h]; rfl

/-- feeding ANY history of deliver_sm PDUs to the combiner never panics: sequence 0, sequence above
the announced total, a later segment announcing another total, totals of 0 … are ignored -/
theorem C11_combiner_total (history : List Seg) : (run [] history).isPanic = false := by
  obtain ⟨out, h⟩ := run_ok history []
  rw [h]; rfl

/-- MessageState.String returns for every octet value (the name, or the decimal number) -/
theorem C11_message_state_total (m : Nat) : (messageStateString messageStateNames m).isPanic = false := by
  unfold messageStateString
  split
  · rfl
  · rw [List.getElem?_eq_getElem (by omega)]
    rfl

/-- Address.String (and with it UnsuccessfulRecord.String) returns for every address, including
an international ISDN address with an empty number -/
theorem C11_address_string_total (a : Addr) : (addressString a).isPanic = false := by
  unfold addressString
  split
  · next h =>
    rw [idx_lt _ a.no 0 (by simp at h; exact h.2)]
    dsimp only
    split <;> rfl
  · rfl

/-! ## non-vacuity -/
example : addressString ⟨1, 1, []⟩ = .ok [] := by decide
example : addressString ⟨1, 1, [49]⟩ = .ok [43, 49] := by decide
example : concatHeader (some [(0, [1])]) = .ok none := by decide
example : concatHeader (some [(0, [1]), (8, [0xF4, 0x2E, 2, 1])]) = .ok (some ⟨62510, 2, 1⟩) := by decide
example : messageStateString messageStateNames 10 = .ok "10" := by decide +kernel

end Smpp.Properties.C11

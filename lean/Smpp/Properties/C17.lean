/-
C17 — Text octets match the standard charset named by data_coding.
-/
import Smpp.Properties.SrcCompose
import Smpp.Properties.SrcCoding
import Smpp.Proofs.Utf16
import Smpp.Spec.Iso8859
import Smpp.Generated.CodingFacts
import Smpp.Proofs.Bitmap

namespace Smpp.Properties.C17
open Smpp.Coding Smpp.Generated Smpp.Spec.Iso8859

/-! ## single-octet charsets: the regenerated (scalar, octet) tables against the standards -/

/-- every entry of the implementation's table is the standard's assignment … -/
def tableSound (tbl : List (Nat × Nat)) (spec : Nat → Option Nat) : Bool :=
  tbl.all fun p => spec p.2 == some p.1 && decide (p.2 < 256)

/-- … and every assignment of the standard (outside C1 when `c1` is false) is in the table, with
nothing else encoded to that octet -/
def tableComplete (tbl : List (Nat × Nat)) (spec : Nat → Option Nat) (c1 : Bool) : Bool :=
  (List.range 256).all fun b =>
    match spec b with
    | some r => (!c1 && isC1 r) || tbl.contains (r, b)
    | none => !(tbl.any fun p => p.2 == b)

/-- no scalar value is listed twice (the encoder is a function) -/
def tableFunctional (tbl : List (Nat × Nat)) : Bool := (tbl.map (·.1)).Nodup

/-! `tableFunctional` and `tableComplete` walk the table once per entry; on bitmaps (Proofs/Bitmap)
each is one pass.  A pair is the number `scalar * 256 + octet`. -/

theorem tableFunctional_of {tbl : List (Nat × Nat)} (h : Bitmap.fresh (tbl.map (·.1)) 0 = true) :
    tableFunctional tbl = true :=
  decide_eq_true (Bitmap.nodup_of_fresh h)

theorem tableComplete_of {tbl : List (Nat × Nat)} {spec : Nat → Option Nat} {c1 : Bool}
    (hs : tableSound tbl spec = true)
    (h : ((List.range 256).all fun b =>
      match spec b with
      | some r => (!c1 && isC1 r) || (Bitmap.ofList (tbl.map fun p => p.1 * 256 + p.2)).testBit (r * 256 + b)
      | none => true) = true) : tableComplete tbl spec c1 = true := by
  rw [tableSound, List.all_eq_true] at hs
  rw [tableComplete, List.all_eq_true]
  intro b hb
  have hb' := List.all_eq_true.mp h b hb
  cases hr : spec b with
  | none =>
    -- an octet the table uses is assigned, by soundness
    simp only [Bool.not_eq_true', List.any_eq_false, beq_iff_eq]
    exact fun p hp hpb => by simpa [hpb, hr] using hs p hp
  | some r =>
    simp only [hr, Bool.or_eq_true, Bitmap.testBit_ofList, decide_eq_true_eq, List.mem_map] at hb' ⊢
    refine hb'.imp_right fun ⟨⟨r', b'⟩, hp, hk⟩ => ?_
    have := hs _ hp
    simp only [Bool.and_eq_true, decide_eq_true_eq] at this
    -- a pair is determined by its number because the octets are below 256
    obtain ⟨rfl, rfl⟩ : r' = r ∧ b' = b := by have := List.mem_range.mp hb; omega
    simpa using hp

theorem latin1_table : tableSound table_3 latin1 = true ∧ tableComplete table_3 latin1 true = true ∧
    tableFunctional table_3 = true :=
  have hs : tableSound table_3 latin1 = true := by decide +kernel
  ⟨hs, tableComplete_of hs (by decide +kernel), tableFunctional_of (by decide +kernel)⟩

/-- data_coding 1 (ASCII/IA5) is served by the same encoder; claimed only for U+0000..U+007F -/
theorem ascii_table : (table_1.filter (fun p => p.1 < 128)) = (List.range 128).map (fun b => (b, b)) := by
  decide +kernel

theorem cyrillic_table : tableSound table_6 cyrillic = true ∧ tableComplete table_6 cyrillic false = true ∧
    tableFunctional table_6 = true :=
  have hs : tableSound table_6 cyrillic = true := by decide +kernel
  ⟨hs, tableComplete_of hs (by decide +kernel), tableFunctional_of (by decide +kernel)⟩

theorem hebrew_table : tableSound table_7 hebrew = true ∧ tableComplete table_7 hebrew false = true ∧
    tableFunctional table_7 = true :=
  have hs : tableSound table_7 hebrew = true := by decide +kernel
  ⟨hs, tableComplete_of hs (by decide +kernel), tableFunctional_of (by decide +kernel)⟩

/-- today's treatment of the C1 controls, pinned (DESIGN.md §9.4): Latin-1 carries them, the
Cyrillic and Hebrew encoders reject them -/
theorem c1_pinned : (table_3.filter (fun p => isC1 p.1)).length = 32 ∧
    (table_6.filter (fun p => isC1 p.1)).length = 0 ∧ (table_7.filter (fun p => isC1 p.1)).length = 0 := by
  decide +kernel

/-- **C17, conformance (per scalar, all scalars).**  The encoder maps `r` to octet `b` iff the standard
assigns `r` to position `b` (C1 controls aside for 8859-5/8). -/
theorem C17_conformance (tbl : List (Nat × Nat)) (spec : Nat → Option Nat) (c1 : Bool)
    (hs : tableSound tbl spec = true) (hc : tableComplete tbl spec c1 = true) (r b : Nat)
    (hr : c1 = true ∨ isC1 r = false) :
    (r, b) ∈ tbl ↔ (spec b = some r ∧ b < 256) := by
  constructor
  · intro h
    have := List.all_eq_true.mp hs (r, b) h
    simpa using this
  · intro ⟨h1, h2⟩
    have := List.all_eq_true.mp hc b (List.mem_range.mpr h2)
    simp only [h1] at this
    rcases hr with hr | hr <;> simpa [hr] using this

/-- **C17, rejection.**  A text is accepted iff every rune has an octet; any other text is an error —
nothing is substituted. -/
theorem C17_reject (tbl : List (Nat × Nat)) (t : List Nat) :
    (encTable tbl t).isSome = t.all (fun r => (tableEnc tbl r).isSome) := by
  induction t with
  | nil => rfl
  | cons r t ih =>
    rw [encTable, List.all_cons, ← ih]
    cases tableEnc tbl r <;> cases encTable tbl t <;> rfl

/-- an accepted text is encoded rune by rune, one octet each -/
theorem C17_octets (tbl : List (Nat × Nat)) (t : List Nat) (bs : List UInt8) (h : encTable tbl t = some bs) :
    bs.length = t.length := by
  induction t generalizing bs with
  | nil => cases Option.some.inj h; rfl
  | cons r t ih =>
    rw [encTable] at h
    cases h1 : tableEnc tbl r <;> cases h2 : encTable tbl t <;> rw [h1, h2] at h <;> cases h
    rw [List.length_cons, ih _ h2, List.length_cons]

/-! ## UCS-2 = UTF-16 big-endian without byte-order mark -/

/-- every scalar value: two octets in the BMP (the code unit, high octet first), four beyond it
(high then low surrogate) -/
theorem C17_utf16_units (r : Nat) (hs : isScalar r = true) :
    (r < 65536 → utf16be r = [UInt8.ofNat (r / 256), UInt8.ofNat (r % 256)]) ∧
    (65536 ≤ r → utf16be r = [UInt8.ofNat (hiSur r / 256), UInt8.ofNat (hiSur r % 256),
        UInt8.ofNat (loSur r / 256), UInt8.ofNat (loSur r % 256)] ∧
      55296 ≤ hiSur r ∧ hiSur r < 56320 ∧ 56320 ≤ loSur r ∧ loSur r < 57344 ∧
      r = 65536 + (hiSur r - 55296) * 1024 + (loSur r - 56320)) := by
  simp only [isScalar, Bool.or_eq_true, Bool.and_eq_true, decide_eq_true_eq] at hs
  constructor
  · intro h; simp [utf16be, h]
  · intro h
    exact ⟨by simp [utf16be, Nat.not_lt.mpr h], surrogates r h (by omega)⟩

/-- no byte-order mark: the empty text encodes to nothing -/
theorem C17_no_bom : encUcs2 [] = [] := rfl

/-- **C17, UTF-16 round trip** for every text of scalar values (any length, any mix of planes) -/
theorem C17_utf16_roundtrip (t : List Nat) (hs : t.all isScalar = true) : decUcs2 (encUcs2 t) = t := by
  induction t with
  | nil => simp [encUcs2, decUcs2]
  | cons r t ih =>
    simp only [List.all_cons, Bool.and_eq_true] at hs
    simp only [encUcs2, List.flatMap_cons] at ih ⊢
    rw [decUcs2_utf16be r _ hs.1, ih hs.2]

/-! ## availability: every data_coding with an encoder has a decoder and a splitter -/

theorem C17_availability :
    codingAvailability.length = 256 ∧
    codingAvailability.all (fun p => p.2.1 == 0 || (p.2.1 == 1 && p.2.2 == 1)) = true := by decide +kernel

theorem map_keys : encodingMapKeys = [0, 1, 3, 5, 6, 7, 8, 10, 13, 14] ∧ splitterMapKeys = encodingMapKeys :=
  ⟨rfl, rfl⟩

/-! ## multi-octet codecs: the lifting from runes to texts -/

/-- If a decoder inverts an encoder rune by rune — `dec (enc r ++ rest) = r :: dec rest` for every
accepted rune (the per-rune law, checked EXHAUSTIVELY on the implementation for Shift-JIS, EUC-JP
and EUC-KR by the `codingsweep` operation of this check) — then it inverts it on every accepted text. -/
theorem C17_lift {enc : Nat → Option (List UInt8)} {dec : List UInt8 → List Nat}
    (hnil : dec [] = [])
    (law : ∀ r b, enc r = some b → ∀ rest, dec (b ++ rest) = r :: dec rest) :
    ∀ (t : List Nat) (bs : List (List UInt8)), t.mapM enc = some bs → dec bs.flatten = t := by
  intro t
  induction t with
  | nil => intro bs h; simp at h; subst h; simpa using hnil
  | cons r t ih =>
    intro bs h
    simp only [List.mapM_cons, Option.bind_eq_bind, Option.bind_eq_some_iff, Option.pure_def, Option.some.injEq] at h
    obtain ⟨b, hb, bs', hbs', rfl⟩ := h
    rw [List.flatten_cons, law r b hb, ih bs' hbs']

/-! ## non-vacuity -/
example : tableEnc table_6 0x416 = some 0xB6 ∧ tableEnc table_7 0x5D0 = some 0xE0 ∧ tableEnc table_6 0x80 = none := by
  decide +kernel
example : encUcs2 [0x41, 0x1F48A] = [0, 0x41, 0xD8, 0x3D, 0xDC, 0x8A] := by decide +kernel

end Smpp.Properties.C17

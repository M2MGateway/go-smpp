/-
C06 — Documented concurrent use of Conn is free of data races.

What is proved is the lockset discipline, on facts REGENERATED from conn.go on every run:
  * the only mutable plain state of Conn is the `pending` map; every access to it lies lexically inside a
    `c.mu.Lock() … c.mu.Unlock()` region (functions lookup and register), and no other function mentions it;
  * every other field is assigned once, in NewConn's composite literal, before any goroutine can exist, and is
    afterwards only read (ctx, cancel, parent, receiveQueue are themselves synchronisation objects or safe for
    concurrent use by contract: context.Context, context.CancelFunc, net.Conn, chan);
  * in the transition system (Smpp/Model/Conn.lean) each pending-table operation is one atomic label, which is
    exactly what holding the mutex across it provides.
PARTIAL: that lock-protected accesses are ordered by happens-before in the Go memory model is trusted, not proved;
the race detector run of the README workload (engine `racerun`) is the search for a failing execution.
-/
import Smpp.Properties.ConnSource

namespace Smpp.Properties.C06
open Smpp.Generated

/-- the fields of Conn: one mutex, one map, and otherwise immutable references / configuration -/
theorem conn_fields : connFields = [
  ("parent", "net.Conn"), ("ctx", "context.Context"), ("cancel", "context.CancelFunc"),
  ("receiveQueue", "chan interface{}"), ("pending", "map[int32]func(interface{})"), ("mu", "sync.Mutex"),
  ("NextSequence", "func() int32"), ("ReadTimeout", "time.Duration"), ("WriteTimeout", "time.Duration")] := rfl

/-- **every access to the pending table holds the mutex** -/
theorem C06_pending_guarded : (connAccesses.filter fun a => a.2.1 == "pending").all (fun a => a.2.2.2) = true := by
  decide +kernel

/-- and the table is touched by lookup and register only -/
theorem C06_pending_sites : ((connAccesses.filter fun a => a.2.1 == "pending").map (·.1)).eraseDups = ["Conn.lookup", "Conn.register"] := by
  decide +kernel

/-- **no field of Conn is assigned after construction**: the only non-read accesses are the guarded map writes and the
close of the queue (a channel operation, performed once by Watch: C15) -/
theorem C06_no_unguarded_write : (connAccesses.filter fun a => a.2.2.1 != "read") =
    [("Conn.Watch", "receiveQueue", "close", false), ("Conn.register", "pending", "write", true), ("Conn.register", "pending", "write", true)] := by
  decide +kernel

/-- the mutex itself is used only through Lock / Unlock inside lookup and register -/
theorem C06_lock_shape : connSrc_Conn_lookup = [
    "Conn.lookup: c.mu.Lock()", "Conn.lookup: defer c.mu.Unlock()", "Conn.lookup: callback, ok = c.pending[sequence]", "Conn.lookup: return"] ∧
  connSrc_Conn_register = [
    "Conn.register: c.mu.Lock()", "Conn.register: defer c.mu.Unlock()",
    "Conn.register: if callback == nil { delete(c.pending, sequence) } else { c.pending[sequence] = callback }"] := ⟨rfl, rfl⟩

/-- conn.go declares no other function that could reach the connection state -/
theorem C06_functions : connFunctions = ["OpenConn", "NewConn", "Conn.Watch", "Conn.Submit", "Conn.lookup", "Conn.register",
    "Conn.Send", "Conn.EnquireLink", "Conn.Close", "Conn.Done", "Conn.PDU"] := rfl

/-- non-vacuity: the fact list is not empty and does contain guarded map accesses -/
example : (connAccesses.filter fun a => a.2.1 == "pending").length = 3 := by decide +kernel

end Smpp.Properties.C06

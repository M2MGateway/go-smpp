/-
C03 — A PDU stream is re-framed correctly under any fragmentation.
-/
import Smpp.Proofs.Lits
import Smpp.Properties.SrcPduFrame
import Smpp.Proofs.Framing
import Smpp.Generated.Layouts
import Smpp.Generated.PduFacts
import Smpp.Generated.ConnFacts

namespace Smpp.Properties.C03
open Smpp.Pdu Smpp.Generated

/-! ## expectations on regenerated facts -/

/-- No decoder uses a bare `Read` (which may return short): header via binary.Read, body,
message, TLV value and UDH element data via io.ReadFull, the rest via ReadByte/ReadString.
This is what makes the decoders functions of the octet sequence alone. -/
theorem all_reads_exact :
    pduReadSites.all (fun p => !(p.1.endsWith "|read:Read")) = true :=
  (LitFsts.all (fun l a => by rw [endsWith_ofList]) (by repeat constructor)).trans (by decide +kernel)

theorem readpdu_reads :
    pduReadSites.filter (fun p => p.1.startsWith "pdu/pdu.go" || p.1.startsWith "pdu/header.go")
      = [("pdu/header.go|readHeaderFrom|read:binary.Read", 1), ("pdu/pdu.go|ReadPDU|read:ReadFull", 1)] :=
  LitFsts.filter (fun l _ => congrArg₂ or (startsWith_ofList l _) (startsWith_ofList l _)) (by repeat constructor)
    (by repeat constructor) (by decide +kernel)

/-- the 16..0x10000 bounds the model uses are the ones in header.go -/
theorem length_bounds :
    pduGuards.filter (fun g => g.startsWith "pdu/header.go")
      = ["pdu/header.go readHeaderFrom: header.CommandLength < 16",
         "pdu/header.go readHeaderFrom: header.CommandLength > 0x10000"] :=
  Lits.filter (startsWith_ofList · _) (by repeat constructor) (by repeat constructor) (by decide +kernel)

/-- Watch — the consumer that relies on exact consumption — hands the transport itself to every ReadPDU call: no buffered
reader between calls that could read ahead and drop octets of the next frame, `continue` after the generic_nack -/
theorem watch_reads_transport_directly : connSrc_Conn_Watch = [
  "Conn.Watch: defer close(c.receiveQueue)",
  "Conn.Watch: defer c.cancel()",
  "Conn.Watch: var err error",
  "Conn.Watch: var packet interface{}",
  "Conn.Watch: for { select { case <-c.ctx.Done(): return default: } if c.ReadTimeout > 0 { _ = c.parent.SetReadDeadline(time.Now().Add(c.ReadTimeout)) } if packet, err = ReadPDU(c.parent); err == io.EOF { return } else if status, ok := err.(CommandStatus); err != nil { if packet == nil { return } else if !ok { status = ErrUnknownError } sequence := ReadSequence(packet) _ = c.Send(&GenericNACK{ Header: Header{CommandStatus: status, Sequence: sequence}, Tags: Tags{0xFFFF: []byte(err.Error())}, }) continue } else if callback, ok := c.lookup(ReadSequence(packet)); ok { callback(packet) } else { select { case <-c.ctx.Done(): return case c.receiveQueue <- packet: } } }"] := rfl

/-- **Fragmentation independence** of one ReadPDU call: result, octets taken and octets left
depend only on the concatenation of what the reads hand out. -/
theorem C03_fragmentation (s s' : Stream) (h : s.flatten = s'.flatten) :
    (readPDU pduLayouts s).out = (readPDU pduLayouts s').out ∧
    (readPDU pduLayouts s).consumed = (readPDU pduLayouts s').consumed ∧
    (readPDU pduLayouts s).rest.flatten = (readPDU pduLayouts s').rest.flatten :=
  readPDU_chunk_indep pduLayouts s s' h

/-- … and of any number of successive calls. -/
theorem C03_fragmentation_all (fuel : Nat) (s s' : Stream) (h : s.flatten = s'.flatten) :
    readAll pduLayouts fuel s = readAll pduLayouts fuel s' :=
  readAll_chunk_indep pduLayouts fuel s s' h

/-- **Exact consumption.**  With an acceptable header (command_length = frame size, 16..65536)
ReadPDU takes exactly command_length octets and leaves the rest of the stream untouched —
also when the body does not decode or the command_id is unknown (`Frame.result` covers all
three outcomes). -/
theorem C03_consumes (f : Frame) (hf : f.framed) (s : Stream) (tail : Bytes)
    (hs : s.flatten = f.bytes ++ tail) :
    (readPDU pduLayouts s).out = f.result pduLayouts ∧
    (readPDU pduLayouts s).consumed = f.bytes.length ∧
    (readPDU pduLayouts s).rest.flatten = tail :=
  readPDU_framed pduLayouts f hf s tail hs

/-- **Streams.**  PDUs written back to back come out in order, then io.EOF, for every
fragmentation `s` of the byte string. -/
theorem C03_frames (fs : List Frame) (s : Stream)
    (hall : ∀ f ∈ fs, f.framed ∧ ∃ n v, f.result pduLayouts = .ok n v)
    (hs : s.flatten = (fs.map Frame.bytes).flatten) :
    readAll pduLayouts (fs.length + 1) s = fs.map (Frame.result pduLayouts) ++ [.errNil .eof] :=
  readAll_frames pduLayouts fs s hall hs

/-- **Truncation.**  A stream that ends strictly inside a PDU produces an error: never a PDU,
never a clean io.EOF. -/
theorem C03_truncated (f : Frame) (hf : f.framed) (k : Nat) (hk0 : 0 < k) (hk : k < f.bytes.length)
    (s : Stream) (hs : s.flatten = f.bytes.take k) :
    (readPDU pduLayouts s).out = .errNil .ueof ∨ (readPDU pduLayouts s).out = .errNil (.status 2) :=
  readPDU_truncated pduLayouts f k hf.1 hk0 hk s hs

/-! ## non-vacuity -/

/-- an enquire_link frame (16 octets, sequence 7) is well framed and decodes -/
def exFrame : Frame := ⟨⟨16, 0x15, 0, 7⟩, []⟩

example : exFrame.framed := ⟨by decide, by decide⟩
example : exFrame.result pduLayouts = .ok "EnquireLink" [.header ⟨16, 0x15, 0, 7⟩, .tags []] := by
  decide +kernel

end Smpp.Properties.C03

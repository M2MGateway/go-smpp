/-
C20 — Scalar field codecs are exact inverses and follow the SMPP bit and time layouts.
-/
import Smpp.Properties.SrcScalar
import Smpp.Proofs.TimeProofs
import Smpp.Proofs.SpecLayout
import Smpp.Generated.PduFacts

namespace Smpp.Properties.C20
open Smpp.Pdu Smpp.Time Smpp.Generated

/-! ## expectation: the bit-codec statements the model transcribes (regenerated from the source) -/

theorem bit_codec_source : bitCodecStmts = [
  "ESMClass.ReadByte: c |= e.MessageMode & 0b11",
  "ESMClass.ReadByte: c |= e.MessageType & 0b1111 << 2",
  "ESMClass.ReadByte: c |= getBool(e.UDHIndicator) << 6",
  "ESMClass.ReadByte: c |= getBool(e.ReplyPath) << 7",
  "ESMClass.ReadByte: return",
  "ESMClass.WriteByte: e.MessageMode = c & 0b11",
  "ESMClass.WriteByte: e.MessageType = c >> 2 & 0b1111",
  "ESMClass.WriteByte: e.UDHIndicator = c>>6&0b1 == 1",
  "ESMClass.WriteByte: e.ReplyPath = c>>7&0b1 == 1",
  "ESMClass.WriteByte: return nil",
  "RegisteredDelivery.ReadByte: c |= r.MCDeliveryReceipt & 0b11",
  "RegisteredDelivery.ReadByte: c |= r.SMEOriginatedAcknowledgment & 0b11 << 2",
  "RegisteredDelivery.ReadByte: c |= getBool(r.IntermediateNotification) << 4",
  "RegisteredDelivery.ReadByte: c |= r.Reserved & 0b111 << 5",
  "RegisteredDelivery.ReadByte: return",
  "RegisteredDelivery.WriteByte: r.MCDeliveryReceipt = c & 0b11",
  "RegisteredDelivery.WriteByte: r.SMEOriginatedAcknowledgment = c >> 2 & 0b11",
  "RegisteredDelivery.WriteByte: r.IntermediateNotification = c>>4&0b1 == 1",
  "RegisteredDelivery.WriteByte: r.Reserved = c >> 5 & 0b111",
  "RegisteredDelivery.WriteByte: return nil"] := rfl

theorem time_source : timeStmts = [
  "fmt: \"%02d%02d%02d%02d%02d%02d%d%02d%c\" t.Year() - 2000, int(t.Month()), t.Day(), t.Hour(), t.Minute(), t.Second(), t.Nanosecond() / 1e8, offset / 900, symbol",
  "fmt: \"%02d%02d%02d%02d%02d%02d%d00R\" parts[0], parts[1], parts[2], parts[3], parts[4], parts[5], int(ts.Nanoseconds() / 1e8)",
  "date: int(2000 + parts[0]), time.Month(parts[1]), int(parts[2]), int(parts[3]), int(parts[4]), int(parts[5]), int(parts[6]) * 1e8, time.FixedZone(\"\", int(parts[7]*900))",
  "bases: time.Hour * 8760, time.Hour * 720, time.Hour * 24, time.Hour, time.Minute, time.Second, 1e8, 0",
  "units: time.Hour * 8760, time.Hour * 720, time.Hour * 24, time.Hour, time.Minute, time.Second",
  "slice: input[i : i+2]", "slice: input[12:13]", "slice: input[13:15]", "index: input[15]"] := rfl

/-! ## octet codecs: all 256 values -/

/-- esm_class: decode-then-encode is the identity on every octet … -/
theorem C20_esm (c : UInt8) : encEsm (decEsm c) = c := (esm_octets c).1

/-- … and each field sits where SMPP v5 §4.7.12 puts it (mode bits 1-0, type bits 5-2, UDHI bit 6,
reply path bit 7), stated arithmetically and independently of the bit operators. -/
theorem C20_esm_positions_fin : ∀ c : Fin 256,
    let e := decEsm (UInt8.ofNat c.val)
    e.mode.toNat = c.val % 4 ∧ e.type.toNat = c.val / 4 % 16 ∧ e.udhi = (c.val / 64 % 2 == 1) ∧
      e.reply = (c.val / 128 == 1) := by decide +kernel

theorem C20_regdlv (c : UInt8) : encRegDlv (decRegDlv c) = c := (regdlv_octets c).1

/-- registered_delivery §4.7.21: receipt bits 1-0, SME ack bits 3-2, intermediate bit 4, reserved 7-5 -/
theorem C20_regdlv_positions_fin : ∀ c : Fin 256,
    let r := decRegDlv (UInt8.ofNat c.val)
    r.mc.toNat = c.val % 4 ∧ r.sme.toNat = c.val / 4 % 4 ∧ r.inter = (c.val / 16 % 2 == 1) ∧
      r.reserved.toNat = c.val / 32 := by decide +kernel

/-- interface_version survives its text form ("major.minor") for all 256 values -/
theorem C20_ifver (c : UInt8) : versionParse (versionString c) = some c :=
  forall_u8 (P := fun c => versionParse (versionString c) = some c) (by decide +kernel) c

/-! ## absolute time -/

/-- **format → parse.**  Every instant whose civil fields in its own zone are a valid date of
2000–2099 at tenth-of-second resolution, in any quarter-hour zone within ±12 h, comes back with
the same fields and the same offset (hence the same instant). -/
theorem C20_time_format_parse (yy m d h mi s t q : Nat) (sym : UInt8) (hyy : yy < 100)
    (hv : ValidCivil (2000 + yy) m d h mi s t) (hq : q ≤ 48) (hsym : sym = 43 ∨ sym = 45)
    (hz : q = 0 → sym = 43) :
    let g : GoDate := ⟨((2000 + yy : Nat) : Int), m, d, h, mi, s, (t : Int) * 100000000, offsetOf q sym⟩
    timeFrom (timeString g) = some g :=
  (congrArg timeFrom (timeString_valid hyy hv hq hsym hz)).trans (timeFrom_enc hyy hv (by omega) hsym)

/-- **parse → format.**  Every valid absolute time string (16 characters, valid date and time,
nn ≤ 48, "00-" excluded — DESIGN.md §9.3) is reproduced character for character. -/
theorem C20_time_parse_format (yy m d h mi s t q : Nat) (sym : UInt8) (hyy : yy < 100)
    (hv : ValidCivil (2000 + yy) m d h mi s t) (hq : q ≤ 48) (hsym : sym = 43 ∨ sym = 45)
    (hz : q = 0 → sym = 43) :
    (timeFrom (encAbs yy m d h mi s t q sym)).map timeString = some (encAbs yy m d h mi s t q sym) := by
  rw [timeFrom_enc hyy hv (show q < 100 by omega) hsym, Option.map_some, timeString_valid hyy hv hq hsym hz]

/-- negative zero cannot be preserved (why "00-" is outside the domain): it formats as "00+" -/
theorem C20_negative_zero :
    (timeFrom (encAbs 21 3 4 5 6 7 8 0 45)).map timeString = some (encAbs 21 3 4 5 6 7 8 0 43) := by
  decide +kernel

/-! ## relative period -/

/-- format → parse returns the same duration for every period from one second to just under
100 (365-day) years at tenth-of-second resolution. -/
theorem C20_duration (d : Nat) (h1 : 1000000000 ≤ d) (h2 : d < 100 * 8760 * 3600000000000)
    (h3 : d % 100000000 = 0) : durFrom (durString (d : Int)) = some (d : Int) := by
  unfold durString
  rw [if_neg (by omega), Int.toNat_natCast]
  extract_lets n y r1 mo r2 dd r3 hh r4 mi r5 ss r6
  have b1 : y < 100 := Nat.div_lt_of_lt_mul (by omega : d < 8760 * 3600000000000 * 100)
  have b2 : mo < 100 := mod_div_lt (by decide) (by decide)
  have b3 : dd < 100 := mod_div_lt (by decide) (by decide)
  have b4 : hh < 100 := mod_div_lt (by decide) (by decide)
  have b5 : mi < 100 := mod_div_lt (by decide) (by decide)
  have b6 : ss < 100 := mod_div_lt (by decide) (by decide)
  have b7 : r6 / 100000000 < 10 := mod_div_lt (by decide) (by decide)
  rw [fmt02_lt b1, fmt02_lt b2, fmt02_lt b3, fmt02_lt b4, fmt02_lt b5, fmt02_lt b6, fmtD_lt b7]
  unfold durFrom
  simp only [List.cons_append, List.nil_append, List.isEmpty_cons, Bool.false_eq_true, ↓reduceIte, fromTimeString,
    parse2_lt b1, parse2_lt b2, parse2_lt b3, parse2_lt b4, parse2_lt b5, parse2_lt b6, parse1_lt b7, durBases,
    List.zipWith_cons_cons, List.zipWith_nil_right, List.sum_cons, List.sum_nil]
  congr 1
  omega

/-! ## non-vacuity -/
example : ValidCivil 2024 2 29 23 59 59 9 := ⟨by decide, by decide, by decide, by decide, by decide, by decide, by decide⟩
example : timeString ⟨2024, 2, 29, 23, 59, 59, 900000000, -(48 * 900)⟩ = "240229235959948-".toUTF8.toList := by
  decide +kernel
example : durString 3723500000000 = "000000010203500R".toUTF8.toList := by decide +kernel

end Smpp.Properties.C20

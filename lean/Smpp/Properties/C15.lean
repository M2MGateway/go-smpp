/-
C15 — Connection teardown wakes every caller and stops every loop, without panics.

Safety clauses are invariants of the transition system for EVERY reachable state (every placement of the terminating
event relative to outstanding Submits, an unsolicited PDU in flight and the unbind handshake).  "Promptly" is
formalised as: the step that releases the goroutine is ENABLED in that state and needs no further event from the
peer, the application or a timer.  PARTIAL: wall-clock promptness and real timers (ReadTimeout, the one-second unbind
deadline, the keep-alive ticker) are outside the model.  The EnquireLink goroutine is in the model (labels ka…); it is
tied by its regenerated statements and exercised on the real code by the `connka` operations (not compared with the
model line by line).
-/
import Smpp.Proofs.ConnProgress
import Smpp.Properties.ConnSource

namespace Smpp.Properties.C15
open Smpp.Conn Smpp.Generated

/-! ## expectations on regenerated facts -/

/-- only Watch closes the queue, and cancels the connection context whenever it returns -/
theorem watch_defers : connSrc_Conn_Watch.take 2 = [
  "Conn.Watch: defer close(c.receiveQueue)",
  "Conn.Watch: defer c.cancel()"] := rfl

/-- Close: unbind under a one-second context derived from the connection context, always cancel, close the transport
only after a successful handshake; it never touches the queue -/
theorem close_shape : connSrc_Conn_Close = [
  "Conn.Close: ctx, cancel := context.WithTimeout(c.ctx, time.Second)",
  "Conn.Close: defer cancel()",
  "Conn.Close: defer c.cancel()",
  "Conn.Close: if _, err = c.Submit(ctx, new(Unbind)); err == nil { err = c.parent.Close() }",
  "Conn.Close: return"] := rfl

/-- the keep-alive loop: a failed keep-alive closes the connection; the loop leaves on the connection context -/
theorem keepalive_shape : connSrc_Conn_EnquireLink = [
  "Conn.EnquireLink: ticker := time.NewTicker(tick)",
  "Conn.EnquireLink: defer ticker.Stop()",
  "Conn.EnquireLink: sendEnquireLink := func() { ctx, cancel := context.WithTimeout(c.ctx, timeout) defer cancel() if _, err := c.Submit(ctx, new(EnquireLink)); err != nil { ticker.Stop() _ = c.Close() } }",
  "Conn.EnquireLink: for { sendEnquireLink() select { case <-c.ctx.Done(): return case <-ticker.C: } }"] := rfl

/-- the queue is closed in exactly one place of conn.go -/
theorem single_close_site : (connAccesses.filter fun a => a.2.2.1 == "close") = [("Conn.Watch", "receiveQueue", "close", false)] := by
  decide +kernel

/-! ## safety in every reachable state, and the steps that release a goroutine -/

/-- **no panic**: no reachable state has a send on, or a second close of, the closed queue -/
theorem C15_no_panic (tbl) (hd : Distinct tbl) (hf : Fresh tbl) (s : State) (h : Reach tbl s) : s.panicked = false :=
  (inv3 tbl hd hf s h).noPanic

/-- the queue is closed only by Watch's exit -/
theorem C15_queue_closed_by_watch (tbl) (hd : Distinct tbl) (hf : Fresh tbl) (s : State) (h : Reach tbl s)
    (hq : s.queueClosed = true) : s.watch = .returned :=
  (inv3 tbl hd hf s h).qClosed hq

/-- **Done() after Watch returns**, and PDU() is closed -/
theorem C15_done_after_watch (tbl) (hd : Distinct tbl) (hf : Fresh tbl) (s : State) (h : Reach tbl s)
    (hw : s.watch = .returned) : s.connDone = true ∧ s.queueClosed = true :=
  (inv3 tbl hd hf s h).watchDone hw

/-- **Done() after Close returns**, whether or not the unbind was answered -/
theorem C15_done_after_close (tbl) (hd : Distinct tbl) (hf : Fresh tbl) (s : State) (h : Reach tbl s) (i : Nat)
    (hk : (tbl i).kind = .close) (hdn : (s.callers i).pc.isDone = true) : s.connDone = true :=
  (inv3 tbl hd hf s h).closeDone i hk hdn

/-- Done() stays closed -/
theorem C15_done_stable (s s' : State) (l : Label) (h : step s l = some s') (hc : s.connDone = true) : s'.connDone = true :=
  connDone_mono (step_sound s s' l h) hc

/-- **Watch returns when the transport ends** (EOF, read error, read timeout, transport closed by Close): once nothing is left to
read the read step leads to the exit, and the exit is enabled -/
theorem C15_watch_exits_on_end (s : State) (hw : s.watch = .reading) (hi : s.inbound = []) (he : s.readSide ≠ Transport.open) :
    ∃ s1 s2, step s .wRead = some s1 ∧ s1.watch = .exiting ∧ step s1 .wExit = some s2 ∧ s2.watch = .returned ∧ s2.connDone = true := by
  refine ⟨{ s with watch := .exiting }, _, by simp [step, hw, hi, he], rfl, rfl, ?_, ?_⟩ <;>
    (simp only; split <;> rfl)

/-- Watch notices a cancelled context at the top of its loop, and while it is offering a PDU nobody takes -/
theorem C15_watch_exits_on_cancel (s : State) (hc : s.connDone = true) :
    (s.watch = .poll → ∃ s', step s .wPoll = some s' ∧ s'.watch = .exiting) ∧
    (∀ p, s.watch = .offering p → ∃ s', step s .wOfferCancel = some s' ∧ s'.watch = .exiting) := by
  constructor
  · intro hw
    refine ⟨{ s with watch := if s.connDone then .exiting else .reading }, by simp [step, hw], by simp [hc]⟩
  · intro p hw
    refine ⟨{ s with watch := .exiting }, by simp [step, hw, hc], rfl⟩

/-- **every blocked Submit is released** once the connection context is done: its error return is enabled, no peer event needed -/
theorem C15_submit_released (s : State) (i : Nat) (hw : (s.callers i).pc = .waiting) (hc : s.connDone = true) :
    ∃ s', step s (.seeConnDone i) = some s' ∧ (s'.callers i).pc = .leaving (.err .closed) :=
  ⟨setPc s i (.leaving (.err .closed)), by simp [step, hw, hc], by simp [setPc]⟩

/-- **a Submit never outlives its own context** -/
theorem C15_own_context (s : State) (i : Nat) (hw : (s.callers i).pc = .waiting) (ho : (s.callers i).ownDone = true) :
    ∃ s', step s (.seeOwnDone i) = some s' ∧ (s'.callers i).pc = .leaving (.err .ctx) :=
  ⟨setPc s i (.leaving (.err .ctx)), by simp [step, hw, ho], by simp [setPc]⟩

/-- a released caller finishes on its own (the deferred unregister never blocks) -/
theorem C15_finish_enabled (s : State) (i : Nat) (r : Result) (hl : (s.callers i).pc = .leaving r) :
    (step s (.finish i)).isSome = true := by
  simp [step, hl]

/-- Close never blocks after its Submit returned: transport close and cancel are enabled in turn -/
theorem C15_close_steps_enabled (s : State) (i : Nat) (r : Result) :
    ((s.callers i).pc = .closing r → (step s (.closeTransport i)).isSome = true) ∧
    ((s.callers i).pc = .cancelling r → (step s (.closeCancel i)).isSome = true) := by
  constructor <;> intro h <;> simp [step, h]

/-- the keep-alive loop returns from its `select` as soon as the connection context is done -/
theorem C15_keepalive_returns_on_done (s : State) (hk : s.ka = .select) (hc : s.connDone = true) :
    ∃ s', step s .kaExit = some s' ∧ s'.ka = .returned :=
  ⟨{ s with ka := .returned }, by simp [step, hk, hc], rfl⟩

/-- **the keep-alive loop returns**: whenever it waits in its `select` after a failed keep-alive (ticker stopped, Close done) the
connection context is already done, so its exit is enabled without any tick — for every reachable state -/
theorem C15_keepalive_returns_after_failure (tbl) (hd : Distinct tbl) (hf : Fresh tbl) (s : State) (h : Reach tbl s)
    (hk : s.ka = .select) (ht : s.tickerStopped = true) : ∃ s', step s .kaExit = some s' ∧ s'.ka = .returned :=
  C15_keepalive_returns_on_done s hk ((invKa tbl hd hf s h).stoppedDone hk ht)

/-- the loop never waits on a stopped ticker with the connection still up (the defect repaired by f1f5953) -/
theorem C15_keepalive_never_stuck (tbl) (hd : Distinct tbl) (hf : Fresh tbl) (s : State) (h : Reach tbl s)
    (hk : s.ka = .select) : s.tickerStopped = false ∨ s.connDone = true := by
  cases ht : s.tickerStopped with
  | false => exact Or.inl rfl
  | true => exact Or.inr ((invKa tbl hd hf s h).stoppedDone hk ht)

/-! ## "every blocked Submit returns … promptly", "never outlives its own context": states at rest

Goroutine steps (`Label.internal`: callers past their start, Watch, the transport's Write returning) strictly decrease the
measure `mu` (`C15_no_livelock`), so after the last environment event the goroutines come to rest after finitely many steps,
whatever the schedule.  In EVERY reachable state at rest: -/

/-- once the connection context is done (transport end seen by Watch, Close returned answered or not, parent cancelled)
every call that was started HAS RETURNED, and Watch has returned — or is parked in Read on a transport that is still open
with nothing to read (parent cancellation alone does not interrupt a blocked Read; ReadTimeout, outside the model, does) -/
theorem C15_all_returned_after_teardown (tbl) (hd : Distinct tbl) (hf : Fresh tbl) (s : State) (hr : ReachP tbl s)
    (hq : Quiescent s) (hconn : s.connDone = true) :
    (∀ i, (s.callers i).pc = .idle ∨ ∃ r, (s.callers i).pc = .done r) ∧
    (s.watch = .returned ∨ (s.watch = .reading ∧ s.inbound = [] ∧ s.readSide = .open)) :=
  teardown_quiescent tbl hd hf s hr hq hconn

/-- a call never outlives its own context: at rest, a call whose context is done has returned (or was never started) -/
theorem C15_not_outliving_own_context (s : State) (hq : Quiescent s) (i : Nat) (hown : (s.callers i).ownDone = true) :
    (s.callers i).pc = .idle ∨ ∃ r, (s.callers i).pc = .done r := by
  rcases quiescent_pc s hq i with h | h | ⟨_, _, _, h⟩
  · exact Or.inl h
  · exact Or.inr h
  · rw [hown] at h; cases h

/-- once the transport's read side has ended, Watch is not left reading: at rest it has returned (Done() closed) -/
theorem C15_watch_returned_after_transport_end (tbl) (hd : Distinct tbl) (hf : Fresh tbl) (s : State) (hr : ReachP tbl s)
    (hq : Quiescent s) (hend : s.readSide ≠ .open) (hdrain : s.draining = true) : s.watch = .returned ∧ s.connDone = true := by
  rcases watch_at_rest tbl hd hf s hr hq with hw | ⟨_, _, ho⟩ | ⟨p, _, hdr, _⟩
  · exact ⟨hw, ((inv3 tbl hd hf s hr.reach).watchDone hw).1⟩
  · exact absurd ho hend
  · rw [hdrain] at hdr; cases hdr

theorem C15_no_livelock (tbl) (hd : Distinct tbl) (hf : Fresh tbl) (n : Nat) (ls : List Label) (s s' : State)
    (hr : ReachP tbl s) (hb : Bounded n s) (hall : ∀ l ∈ ls, l.internal = true) (hrun : run s ls = some s') :
    ls.length ≤ mu n s :=
  Nat.le_trans (Nat.le_add_right _ _) (internal_run_bound tbl hd hf n ls s s' hr hb hall hrun).1

/-! ### non-vacuity of the at-rest theorems: peer EOF with one Submit outstanding -/

def tblT : Nat → Caller := fun i => { kind := .submit, seq := (i : Int) + 1, after := none }

def scriptT : List Label :=
  [.start 0, .check 0, .write 0, .writeRet 0, .transportEOF, .wPoll, .wRead, .wExit, .seeConnDone 0, .finish 0]

theorem runT : ∃ s, run (init tblT) scriptT = some s ∧ (s.callers 0).pc = .done (.err .closed) ∧
    s.connDone = true ∧ s.watch = .returned ∧ s.queueClosed = true ∧ (∀ j, j ≠ 0 → (s.callers j).pc = .idle) := by
  simp [run, scriptT, step, init, tblT, setPc, upd, predDone]
  intro j hj; simp [hj]

/-- the premises of `C15_all_returned_after_teardown` are satisfiable: peer EOF with one Submit outstanding -/
example : ∃ s, ReachP tblT s ∧ Quiescent s ∧ s.connDone = true ∧ (s.callers 0).pc = .done (.err .closed) ∧ s.watch = .returned := by
  obtain ⟨s, hrun, hpc, hc, hw, _, hidle⟩ := runT
  -- the script has no `peerUnsol`, the table no Send call
  have hadm : ∀ l ∈ scriptT, AdmissibleP tblT l := fun l hl =>
    admissibleP_of (by rintro q k rfl; simp [scriptT] at hl) fun k _ => by simp [tblT]
  exact ⟨s, reachP_run tblT scriptT _ s ReachP.init hadm hrun,
    quiescent_of_returned s hw (idle_or_done_of hpc hidle), hc, hpc, hw⟩

/-! ## non-vacuity: the window the property names — an unsolicited PDU right after unbind_resp, nobody receiving -/
def tblc : Nat → Caller := fun _ => { kind := .close, seq := 9, after := none }

example : ((run (init tblc) [.setDrain false, .start 0, .check 0, .write 0, .writeRet 0, .peerAnswer 0, .peerUnsol 77 1,
    .wPoll, .wRead, .wLookup, .wDeliver, .wPoll, .wRead, .wLookup,       -- Watch now offers PDU 77 to nobody
    .takeResp 0, .finish 0, .closeTransport 0, .closeCancel 0,           -- Close completes
    .wOfferCancel, .wExit]).map fun s => (s.panicked, s.connDone, s.queueClosed, s.watch, (s.callers 0).pc))
    = some (false, true, true, .returned, .done (.resp ⟨9, .ans 0⟩)) := by decide +kernel

/-- a keep-alive that goes unanswered: own deadline, Close (unbind unanswered too), cancel, the loop returns -/
def tblka : Nat → Caller := fun i => if i = 0 then { kind := .submit, seq := 1, after := none } else { kind := .close, seq := 2, after := none }

example : ((run (init tblka) [.kaStart, .kaSend 0, .start 0, .check 0, .write 0, .writeRet 0, .deadline 0, .seeOwnDone 0, .finish 0,
    .kaSubmitDone, .kaClose 1, .start 1, .check 1, .write 1, .writeRet 1, .deadline 1, .seeOwnDone 1, .finish 1,
    .closeTransport 1, .closeCancel 1, .kaCloseDone, .kaExit]).map fun s => (s.ka, s.connDone, s.tickerStopped))
    = some (.returned, true, true) := by decide +kernel

end Smpp.Properties.C15

/-
C12 — Marshal is all-or-nothing and never panics.
-/
import Smpp.Properties.SrcPduCodec
import Smpp.Proofs.Roundtrip
import Smpp.Generated.Layouts
import Smpp.Generated.PduFacts

namespace Smpp.Properties.C12
open Smpp.Pdu Smpp.Generated

/-- The Write calls Marshal issues to its destination: the model's `MarshalOut` records the
octets handed to the single `buf.WriteTo(w)`. -/
def writes (o : MarshalOut) : List Bytes :=
  match o.res with
  | .ok b => [b]
  | _ => []

/-! ## expectations on regenerated facts -/

/-- Marshal touches its destination in exactly one place, the final `buf.WriteTo(w)`;
bytes.Buffer.WriteTo issues one Write with the whole buffer. -/
theorem single_write_site : marshalWriterUses = ["buf.WriteTo(w)"] := rfl

/-- every PDU struct starts with its Header (so the model's fallback arm for header-less
structs is never taken for a value of a registered type) -/
theorem header_first :
    pduLayouts.all (fun L => match L.fields with | f :: _ => f.kind == .header | [] => false) = true := by
  decide +kernel

/-- the literal guards of the codec (encoder size limits, decoder bounds), all of them -/
theorem codec_guards : pduGuards = [
  "pdu/header.go readHeaderFrom: header.CommandLength < 16",
  "pdu/header.go readHeaderFrom: header.CommandLength > 0x10000",
  "pdu/marshal.go Marshal: v.Sequence > 0",
  "pdu/message.go ShortMessage.WriteTo: len(p.Message) > MaxShortMessageLength",
  "pdu/message.go ShortMessage.WriteTo: len(data)-1-start > 0xFF",
  "pdu/message.go ShortMessage.Compose: coding.Splitter().Len(input) > MaxShortMessageLength",
  "pdu/udh.go UserDataHeader.ReadFrom: len(header) > 0",
  "pdu/udh.go UserDataHeader.WriteTo: len(data) > 0xFF",
  "pdu/udh.go UserDataHeader.WriteTo: len(data)-1 > 0xFF",
  "pdu/udh.go UserDataHeader.ConcatenatedHeader: len(data) >= 3",
  "pdu/udh.go UserDataHeader.ConcatenatedHeader: len(data) >= 4",
  "pdu/tag.go Tags.ReadFrom: len(tags) > 0",
  "pdu/tag.go Tags.WriteTo: length < 0xFFFF",
  "pdu/address.go Address.String: len(p.No) > 0",
  "pdu/address.go DestinationAddresses.WriteTo: length > 0xFF",
  "pdu/address.go UnsuccessfulRecords.WriteTo: len(p) > 0xFF"] := rfl

/-! ## theorems — for EVERY layout and EVERY value, no domain restriction -/

/-- Marshal never panics: the only partial operation, the length patch `data[0:4]`, is reached
only after the 16-octet header has been written. -/
theorem C12_total (L : Layout) (v : List FVal) : (marshal L v).res.isPanic = false := by
  rcases marshal_cases L v with ⟨h, rest, rfl⟩ | hv
  · rw [marshal_header]
    split
    · split <;> rfl
    · rfl
  · rw [hv]; rfl

/-- On success exactly one frame is written; it has at least 16 octets and (being below 4 GiB)
its first four octets state, big-endian, the number of octets written. -/
theorem C12_success (L : Layout) (v : List FVal) (b : Bytes) (after : List FVal)
    (h : marshal L v = ⟨.ok b, after⟩) :
    writes (marshal L v) = [b] ∧ 16 ≤ b.length ∧ b.take 4 = be32 (UInt32.ofNat b.length) := by
  refine ⟨by rw [h]; rfl, ?_⟩
  rcases marshal_cases L v with ⟨hd, rest, rfl⟩ | hv
  · obtain ⟨_, body, _, _, rfl, _⟩ := marshal_ok_iff.mp h
    rw [List.length_append, encHeader_length]
    exact ⟨by omega, rfl⟩
  · rw [hv] at h; cases h

/-- On error nothing is written to the destination. -/
theorem C12_failure (L : Layout) (v : List FVal) (e : Err) (after : List FVal)
    (h : marshal L v = ⟨.err e, after⟩) : writes (marshal L v) = [] := by
  rw [h]; rfl

/-- Send's guard and Marshal's agree: a non-positive sequence number is refused, whatever the
command_status (the input class that used to panic). -/
theorem C12_nonpositive_sequence (L : Layout) (h : Header) (rest : List FVal) (hs : h.seqPos = false) :
    (marshal L (.header h :: rest)).res = .err .invalidSeq := by
  rw [marshal_header, hs]; rfl

/-! ## non-vacuity -/
example : (marshal ⟨"Unbind", 6, [⟨"Header", .header⟩], false⟩ [.header ⟨0, 0, 3, 0⟩]).res = .err .invalidSeq := by
  decide
example : writes (marshal ⟨"Unbind", 6, [⟨"Header", .header⟩], false⟩ [.header ⟨0, 0, 0, 9⟩])
    = [[0, 0, 0, 16, 0, 0, 0, 6, 0, 0, 0, 0, 0, 0, 0, 9]] := by decide

end Smpp.Properties.C12

-- Expectations on the regenerated source facts of package sms (snapshot written by tools/gen_sms_expect.py
-- after the model was validated against this source).  A changed statement breaks the lemma of its function.
import Smpp.Generated.SmsFacts
namespace Smpp.Properties.SmsSource
open Smpp.Generated

theorem src_Unmarshal : smsSrc_Unmarshal = [
  "Unmarshal: buf := bufio.NewReader(r)",
  "Unmarshal: kind, failure, err := getType(buf)",
  "Unmarshal: if err != nil { return }",
  "Unmarshal: switch { case kind == MessageTypeDeliver: packet = new(Deliver) case kind == MessageTypeDeliverReport && failure: packet = new(DeliverReportError) case kind == MessageTypeDeliverReport: packet = new(DeliverReport) case kind == MessageTypeSubmit: packet = new(Submit) case kind == MessageTypeSubmitReport && failure: packet = new(SubmitReportError) case kind == MessageTypeSubmitReport: packet = new(SubmitReport) case kind == MessageTypeStatusReport: packet = new(StatusReport) case kind == MessageTypeCommand: packet = new(Command) default: err = errors.New(kind.String()) return }",
  "Unmarshal: _, err = unmarshal(buf, packet)",
  "Unmarshal: return"] := rfl

theorem src_unmarshal : smsSrc_unmarshal = [
  "unmarshal: p := reflect.ValueOf(packet)",
  "unmarshal: if p.Kind() == reflect.Ptr { p = p.Elem() }",
  "unmarshal: t := p.Type()",
  "unmarshal: var validityPeriodFormat byte",
  "unmarshal: var parameterIndicator *ParameterIndicator",
  "unmarshal: for i := 0; i < p.NumField(); i++ { abbr := t.Field(i).Tag.Get(\"TP\") if parameterIndicator != nil && !parameterIndicator.Has(abbr) { continue } field := p.Field(i).Addr().Interface() switch field := field.(type) { case *byte: *field, err = buf.ReadByte() case io.ByteWriter: var value byte if value, err = buf.ReadByte(); err == nil { err = field.WriteByte(value) } if setter, ok := field.(directionSetter); ok { switch t.Field(i).Tag.Get(\"DIR\") { case \"MT\": setter.setDirection(MT) case \"MO\": setter.setDirection(MO) } } case *[]byte: var length byte if length, err = buf.ReadByte(); err == nil { *field = make([]byte, length) _, err = buf.Read(*field) } case io.ReaderFrom: _, err = field.ReadFrom(buf) case *interface{}: switch { case abbr == \"VP\" && validityPeriodFormat == 0b01: var duration EnhancedDuration _, err = duration.ReadFrom(buf) *field = duration case abbr == \"VP\" && validityPeriodFormat == 0b10: var duration Duration _, err = duration.ReadFrom(buf) *field = duration case abbr == \"VP\" && validityPeriodFormat == 0b11: var time Time _, err = time.ReadFrom(buf) *field = time } } switch field := field.(type) { case *SubmitFlags: validityPeriodFormat = field.ValidityPeriodFormat case *ParameterIndicator: parameterIndicator = field } if err != nil { return } }",
  "unmarshal: return"] := rfl

theorem src_Marshal : smsSrc_Marshal = [
  "Marshal: p := reflect.ValueOf(packet)",
  "Marshal: if p.Kind() == reflect.Ptr { p = p.Elem() }",
  "Marshal: t := p.Type()",
  "Marshal: var validityPeriodFormat byte",
  "Marshal: var parameterIndicator ParameterIndicator",
  "Marshal: for i := 0; i < p.NumField(); i++ { parameterIndicator.Set(t.Field(i).Tag.Get(\"TP\")) switch field := p.Field(i).Addr().Interface().(type) { case *interface{}: switch (*field).(type) { case EnhancedDuration: validityPeriodFormat = 0b01 case Duration: validityPeriodFormat = 0b10 case Time: validityPeriodFormat = 0b11 } } }",
  "Marshal: var buf bytes.Buffer",
  "Marshal: for i := 0; i < p.NumField(); i++ { switch field := p.Field(i).Addr().Interface().(type) { case *byte: buf.WriteByte(*field) case *[]byte: length := len(*field) buf.WriteByte(byte(length)) buf.Write(bytes.TrimRight(*field, \"\\x00\")) case io.ByteReader: if flags, ok := field.(*SubmitFlags); ok { flags.ValidityPeriodFormat = validityPeriodFormat } var value byte if value, err = field.ReadByte(); err == nil { buf.WriteByte(value) } case io.WriterTo: _, err = field.WriteTo(&buf) case *interface{}: switch field := (*field).(type) { case EnhancedDuration: _, err = field.WriteTo(&buf) case Duration: _, err = field.WriteTo(&buf) case Time: _, err = field.WriteTo(&buf) } } if err != nil { return } }",
  "Marshal: return buf.WriteTo(w)"] := rfl

theorem src_getType : smsSrc_getType = [
  "getType: var peek []byte",
  "getType: if peek, err = buf.Peek(1); err != nil { return }",
  "getType: length := int(peek[0])",
  "getType: if peek, err = buf.Peek(length + 3); err != nil { return }",
  "getType: var dir Direction",
  "getType: if length == 0 { dir = MO }",
  "getType: kind.Set(peek[length+1]&0b11, dir)",
  "getType: failure = peek[length+2] > 0b001111111",
  "getType: return"] := rfl

theorem src_unmarshalFlags : smsSrc_unmarshalFlags = [
  "unmarshalFlags: v := reflect.ValueOf(flags)",
  "unmarshalFlags: if v.Kind() == reflect.Ptr { v = v.Elem() }",
  "unmarshalFlags: var b byte",
  "unmarshalFlags: for i, bits := 0, byte(0); i < v.NumField(); i++ { b = c >> bits switch field := v.Field(i).Addr().Interface().(type) { case *MessageType: field.Set(b&0b11, field.Direction()) bits += 2 case *byte: *field = b & 0b11 bits += 2 case *bool: *field = b&0b1 == 1 bits++ } }",
  "unmarshalFlags: return"] := rfl

theorem src_marshalFlags : smsSrc_marshalFlags = [
  "marshalFlags: v := reflect.ValueOf(flags)",
  "marshalFlags: if v.Kind() == reflect.Ptr { v = v.Elem() }",
  "marshalFlags: for i, bits := 0, byte(0); i < v.NumField(); i++ { switch field := (v.Field(i).Interface()).(type) { case MessageType: c |= field.Type() << bits bits += 2 case byte: c |= (field & 0b11) << bits bits += 2 case bool: if field { c |= 1 << bits } bits++ } }",
  "marshalFlags: return"] := rfl

theorem src_Address_MarshalBinary : smsSrc_Address_MarshalBinary = [
  "Address.MarshalBinary: var kind byte",
  "Address.MarshalBinary: kind |= p.NPI & 0b1111",
  "Address.MarshalBinary: kind |= p.TON & 0b111 << 4",
  "Address.MarshalBinary: kind |= 1 << 7",
  "Address.MarshalBinary: var buf bytes.Buffer",
  "Address.MarshalBinary: buf.WriteByte(0x00)",
  "Address.MarshalBinary: buf.WriteByte(kind)",
  "Address.MarshalBinary: if p.TON != 0b101 { _, err = semioctet.EncodeSemiAddress(&buf, p.No) } else { _, err = gsm7bit.Packed.NewEncoder().Writer(&buf).Write([]byte(p.No)) }",
  "Address.MarshalBinary: data = buf.Bytes()",
  "Address.MarshalBinary: data[0] = byte(len(data) - 2)",
  "Address.MarshalBinary: return"] := rfl

theorem src_Address_ReadFrom : smsSrc_Address_ReadFrom = [
  "Address.ReadFrom: buf := bufio.NewReader(r)",
  "Address.ReadFrom: var length, kind byte",
  "Address.ReadFrom: if length, err = buf.ReadByte(); err != nil || length == 0 { return }",
  "Address.ReadFrom: if kind, err = buf.ReadByte(); err != nil { return }",
  "Address.ReadFrom: p.NPI = kind & 0b1111",
  "Address.ReadFrom: p.TON = kind >> 4 & 0b111",
  "Address.ReadFrom: length = (length + 1) / 2",
  "Address.ReadFrom: data := make([]byte, length)",
  "Address.ReadFrom: if _, err = buf.Read(data); err != nil { return }",
  "Address.ReadFrom: if p.TON != 0b101 { p.No = semioctet.DecodeSemiAddress(data) } else { data, err = gsm7bit.Packed.NewDecoder().Bytes(data) if err == nil { p.No = string(data) } }",
  "Address.ReadFrom: return"] := rfl

theorem src_Address_WriteTo : smsSrc_Address_WriteTo = [
  "Address.WriteTo: if len(p.No) == 0 { _, err = w.Write([]byte{0}) return }",
  "Address.WriteTo: data, _ := p.MarshalBinary()",
  "Address.WriteTo: if p.TON != 0b101 { data[0] = byte(len(p.No)) } else { data[0] *= 2 }",
  "Address.WriteTo: _, err = w.Write(data)",
  "Address.WriteTo: return"] := rfl

theorem src_SCAddress_ReadFrom : smsSrc_SCAddress_ReadFrom = [
  "SCAddress.ReadFrom: buf := bufio.NewReader(r)",
  "SCAddress.ReadFrom: var length, kind byte",
  "SCAddress.ReadFrom: if length, err = buf.ReadByte(); err != nil || length == 0 { return }",
  "SCAddress.ReadFrom: if kind, err = buf.ReadByte(); err != nil { return }",
  "SCAddress.ReadFrom: p.NPI = kind & 0b1111",
  "SCAddress.ReadFrom: p.TON = kind >> 4 & 0b111",
  "SCAddress.ReadFrom: data := make([]byte, length-1)",
  "SCAddress.ReadFrom: if _, err = buf.Read(data); err != nil { return }",
  "SCAddress.ReadFrom: if p.TON != 0b101 { p.No = semioctet.DecodeSemiAddress(data) } else { data, err = gsm7bit.Packed.NewDecoder().Bytes(data) if err == nil { p.No = string(data) } }",
  "SCAddress.ReadFrom: return"] := rfl

theorem src_SCAddress_WriteTo : smsSrc_SCAddress_WriteTo = [
  "SCAddress.WriteTo: if len(p.No) == 0 { _, err = w.Write([]byte{0}) return }",
  "SCAddress.WriteTo: data, _ := Address(p).MarshalBinary()",
  "SCAddress.WriteTo: data[0]++",
  "SCAddress.WriteTo: _, err = w.Write(data)",
  "SCAddress.WriteTo: return"] := rfl

theorem src_Time_ReadFrom : smsSrc_Time_ReadFrom = [
  "Time.ReadFrom: data := make([]byte, 7)",
  "Time.ReadFrom: if _, err = r.Read(data); err != nil { return }",
  "Time.ReadFrom: blocks := semioctet.DecodeSemi(data)",
  "Time.ReadFrom: if len(blocks) != len(data) { err = ErrInvalidSemiOctets return }",
  "Time.ReadFrom: t.Time = time.Date( 2000+blocks[0], time.Month(blocks[1]), blocks[2], blocks[3], blocks[4], blocks[5], 0, time.FixedZone(\"\", blocks[6]*900), )",
  "Time.ReadFrom: return"] := rfl

theorem src_Time_WriteTo : smsSrc_Time_WriteTo = [
  "Time.WriteTo: _, offset := t.Time.Zone()",
  "Time.WriteTo: return semioctet.EncodeSemi( w, t.Time.Year()-2000, int(t.Time.Month()), t.Time.Day(), t.Time.Hour(), t.Time.Minute(), t.Time.Second(), offset/900, )"] := rfl

theorem src_Duration_ReadFrom : smsSrc_Duration_ReadFrom = [
  "Duration.ReadFrom: data := make([]byte, 1)",
  "Duration.ReadFrom: if _, err = r.Read(data); err != nil { return }",
  "Duration.ReadFrom: switch n := time.Duration(data[0]); { case n <= 143: n++ d.Duration = 5 * time.Minute * n case n <= 167: const halfDays = 12 * time.Hour const halfHours = 30 * time.Minute d.Duration = (n-143)*halfHours + halfDays case n <= 196: d.Duration = (n - 166) * 24 * time.Hour default: d.Duration = (n - 192) * 7 * 24 * time.Hour }",
  "Duration.ReadFrom: return"] := rfl

theorem src_Duration_WriteTo : smsSrc_Duration_WriteTo = [
  "Duration.WriteTo: var period time.Duration",
  "Duration.WriteTo: if minutes := d.Duration / time.Minute; minutes <= 5 { period = 0 } else if hours := d.Duration / time.Hour; d.Duration <= 12*time.Hour { period = minutes/5 - 1 } else if hours <= 24 { const halfDays = 12 * time.Hour const halfHours = 30 * time.Minute period = (d.Duration-halfDays)/halfHours + 143 } else if days := hours / 24; days <= 31 { period = hours/24 + 166 } else if weeks := days / 7; weeks <= 62 { period = weeks + 192 } else { period = 255 }",
  "Duration.WriteTo: var buf bytes.Buffer",
  "Duration.WriteTo: buf.WriteByte(byte(period))",
  "Duration.WriteTo: return buf.WriteTo(w)"] := rfl

theorem src_EnhancedDuration_ReadFrom : smsSrc_EnhancedDuration_ReadFrom = [
  "EnhancedDuration.ReadFrom: buf := bufio.NewReader(r)",
  "EnhancedDuration.ReadFrom: if d.Indicator, err = buf.ReadByte(); err != nil { return }",
  "EnhancedDuration.ReadFrom: length := 6",
  "EnhancedDuration.ReadFrom: switch d.Indicator & 0b111 { case 0b001: var duration Duration _, err = duration.ReadFrom(buf) d.Duration = duration.Duration length-- case 0b010: var second byte second, err = buf.ReadByte() d.Duration = time.Second * time.Duration(second) length-- case 0b011: data := make([]byte, 3) _, err = buf.Read(data) semi := semioctet.DecodeSemi(data) if len(semi) != len(data) { if err == nil { err = ErrInvalidSemiOctets } return } d.Duration = time.Duration(semi[0])*time.Hour + time.Duration(semi[1])*time.Minute + time.Duration(semi[2])*time.Second length -= len(data) }",
  "EnhancedDuration.ReadFrom: if err == nil { _, err = buf.Discard(length) }",
  "EnhancedDuration.ReadFrom: return"] := rfl

theorem src_EnhancedDuration_WriteTo : smsSrc_EnhancedDuration_WriteTo = [
  "EnhancedDuration.WriteTo: var buf bytes.Buffer",
  "EnhancedDuration.WriteTo: buf.WriteByte(d.Indicator)",
  "EnhancedDuration.WriteTo: switch d.Indicator & 0b111 { case 0b001: _, _ = (&Duration{d.Duration}).WriteTo(&buf) case 0b010: buf.WriteByte(byte(d.Duration / time.Second)) case 0b011: hh, mm, ss := int(d.Hours()), int(d.Minutes()), int(d.Seconds()) _, _ = semioctet.EncodeSemi(&buf, hh, mm-(hh*60), ss-(mm*60)) }",
  "EnhancedDuration.WriteTo: buf.Write(make([]byte, 7-buf.Len()))",
  "EnhancedDuration.WriteTo: return buf.WriteTo(w)"] := rfl

theorem src_ParameterIndicator_Has : smsSrc_ParameterIndicator_Has = [
  "ParameterIndicator.Has: switch abbr { case \"PID\": return p.ProtocolIdentifier case \"DCS\": return p.DataCoding case \"UD\": return p.UserData }",
  "ParameterIndicator.Has: return false"] := rfl

theorem src_ParameterIndicator_Set : smsSrc_ParameterIndicator_Set = [
  "ParameterIndicator.Set: switch abbr { case \"PID\": p.ProtocolIdentifier = true case \"DCS\": p.DataCoding = true case \"UD\": p.UserData = true }"] := rfl

theorem src_ParameterIndicator_WriteByte : smsSrc_ParameterIndicator_WriteByte = [
  "ParameterIndicator.WriteByte: return unmarshalFlags(c, p)"] := rfl

theorem src_ParameterIndicator_ReadByte : smsSrc_ParameterIndicator_ReadByte = [
  "ParameterIndicator.ReadByte: return marshalFlags(p)"] := rfl

theorem src_Flags_setDirection : smsSrc_Flags_setDirection = [
  "Flags.setDirection: p.MessageType.Set(p.MessageType.Type(), direction)"] := rfl

theorem src_Flags_WriteByte : smsSrc_Flags_WriteByte = [
  "Flags.WriteByte: return unmarshalFlags(c, p)"] := rfl

theorem src_Flags_ReadByte : smsSrc_Flags_ReadByte = [
  "Flags.ReadByte: return marshalFlags(p)"] := rfl

theorem src_DeliverFlags_setDirection : smsSrc_DeliverFlags_setDirection = [
  "DeliverFlags.setDirection: p.MessageType.Set(p.MessageType.Type(), direction)"] := rfl

theorem src_DeliverFlags_WriteByte : smsSrc_DeliverFlags_WriteByte = [
  "DeliverFlags.WriteByte: return unmarshalFlags(c, p)"] := rfl

theorem src_DeliverFlags_ReadByte : smsSrc_DeliverFlags_ReadByte = [
  "DeliverFlags.ReadByte: return marshalFlags(p)"] := rfl

theorem src_SubmitFlags_setDirection : smsSrc_SubmitFlags_setDirection = [
  "SubmitFlags.setDirection: p.MessageType.Set(p.MessageType.Type(), direction)"] := rfl

theorem src_SubmitFlags_WriteByte : smsSrc_SubmitFlags_WriteByte = [
  "SubmitFlags.WriteByte: return unmarshalFlags(c, p)"] := rfl

theorem src_SubmitFlags_ReadByte : smsSrc_SubmitFlags_ReadByte = [
  "SubmitFlags.ReadByte: return marshalFlags(p)"] := rfl

theorem src_MessageType_Set : smsSrc_MessageType_Set = [
  "MessageType.Set: *t = MessageType(kind<<1|byte(dir)) & 0b111"] := rfl

theorem src_MessageType_Type : smsSrc_MessageType_Type = [
  "MessageType.Type: return byte(t>>1) & 0b11"] := rfl

theorem src_MessageType_Direction : smsSrc_MessageType_Direction = [
  "MessageType.Direction: return Direction(t) & 0b1"] := rfl

theorem src_EncodeSemi : smsSrc_EncodeSemi = [
  "EncodeSemi: digits := toDigits(chunks)",
  "EncodeSemi: var buf bytes.Buffer",
  "EncodeSemi: buf.Grow(len(digits) / 2)",
  "EncodeSemi: i, remain := 0, len(digits)",
  "EncodeSemi: for remain > 1 { buf.WriteByte(digits[i+1]<<4 | digits[i]) i += 2 remain -= 2 }",
  "EncodeSemi: if remain > 0 { buf.WriteByte(0b11110000 | digits[i]) }",
  "EncodeSemi: return buf.WriteTo(w)"] := rfl

theorem src_DecodeSemi : smsSrc_DecodeSemi = [
  "DecodeSemi: var half byte",
  "DecodeSemi: for _, item := range encoded { half = item >> 4 if half == 0b1111 { return append(chunks, int(item&0b1111)) } chunks = append(chunks, int(item&0b1111*10+half)) }",
  "DecodeSemi: return"] := rfl

theorem src_EncodeSemiAddress : smsSrc_EncodeSemiAddress = [
  "EncodeSemiAddress: digits := make([]byte, 0, len(input))",
  "EncodeSemiAddress: for _, r := range input { if r < '0' || r > '9' { err = strconv.ErrSyntax return } digits = append(digits, byte(r-'0')) }",
  "EncodeSemiAddress: var buf bytes.Buffer",
  "EncodeSemiAddress: buf.Grow((len(digits) + 1) / 2)",
  "EncodeSemiAddress: for i := 0; i+1 < len(digits); i += 2 { buf.WriteByte(digits[i+1]<<4 | digits[i]) }",
  "EncodeSemiAddress: if len(digits)%2 != 0 { buf.WriteByte(0b11110000 | digits[len(digits)-1]) }",
  "EncodeSemiAddress: return buf.WriteTo(w)"] := rfl

theorem src_DecodeSemiAddress : smsSrc_DecodeSemiAddress = [
  "DecodeSemiAddress: var buf bytes.Buffer",
  "DecodeSemiAddress: var half byte",
  "DecodeSemiAddress: for _, item := range encoded { half = item & 0b1111 buf.WriteByte('0' + half) if half = item >> 4; half != 0b1111 { buf.WriteByte('0' + half) } }",
  "DecodeSemiAddress: return buf.String()"] := rfl

theorem src_toDigits : smsSrc_toDigits = [
  "toDigits: for _, chunk := range chunks { if chunk < 10 { digits = append(digits, 0) } for _, r := range strconv.Itoa(chunk) { digits = append(digits, byte(r-'0')) } }",
  "toDigits: return"] := rfl

theorem functions : smsSrcFunctions = ["Unmarshal", "unmarshal", "Marshal", "getType", "unmarshalFlags", "marshalFlags", "Address.MarshalBinary", "Address.ReadFrom", "Address.WriteTo", "SCAddress.ReadFrom", "SCAddress.WriteTo", "Time.ReadFrom", "Time.WriteTo", "Duration.ReadFrom", "Duration.WriteTo", "EnhancedDuration.ReadFrom", "EnhancedDuration.WriteTo", "ParameterIndicator.Has", "ParameterIndicator.Set", "ParameterIndicator.WriteByte", "ParameterIndicator.ReadByte", "Flags.setDirection", "Flags.WriteByte", "Flags.ReadByte", "DeliverFlags.setDirection", "DeliverFlags.WriteByte", "DeliverFlags.ReadByte", "SubmitFlags.setDirection", "SubmitFlags.WriteByte", "SubmitFlags.ReadByte", "MessageType.Set", "MessageType.Type", "MessageType.Direction", "EncodeSemi", "DecodeSemi", "EncodeSemiAddress", "DecodeSemiAddress", "toDigits"] := rfl

/-- inventory of index / slice / make / unchecked-assertion sites and read primitives: the model has a partial
primitive or a totality argument for each -/
theorem sites : smsSites = [
  ("coding/semioctet/semi_octet.go|EncodeSemiAddress|index", 3),
  ("coding/semioctet/semi_octet.go|EncodeSemi|index", 3),
  ("sms/address.go|Address.MarshalBinary|index", 1),
  ("sms/address.go|Address.ReadFrom|make", 1),
  ("sms/address.go|Address.ReadFrom|read:Read", 1),
  ("sms/address.go|Address.ReadFrom|read:ReadByte", 2),
  ("sms/address.go|Address.WriteTo|index", 2),
  ("sms/address.go|SCAddress.ReadFrom|make", 1),
  ("sms/address.go|SCAddress.ReadFrom|read:Read", 1),
  ("sms/address.go|SCAddress.ReadFrom|read:ReadByte", 2),
  ("sms/address.go|SCAddress.WriteTo|index", 1),
  ("sms/indicator.go|FailureCause.Error|index", 1),
  ("sms/marshal.go|Marshal|read:ReadByte", 1),
  ("sms/marshal.go|getType|index", 3),
  ("sms/marshal.go|getType|read:Peek", 2),
  ("sms/marshal.go|unmarshal|make", 1),
  ("sms/marshal.go|unmarshal|read:Read", 1),
  ("sms/marshal.go|unmarshal|read:ReadByte", 3),
  ("sms/time.go|Duration.ReadFrom|index", 1),
  ("sms/time.go|Duration.ReadFrom|read:Read", 1),
  ("sms/time.go|EnhancedDuration.ReadFrom|index", 3),
  ("sms/time.go|EnhancedDuration.ReadFrom|read:Discard", 1),
  ("sms/time.go|EnhancedDuration.ReadFrom|read:Read", 1),
  ("sms/time.go|EnhancedDuration.ReadFrom|read:ReadByte", 2),
  ("sms/time.go|EnhancedDuration.WriteTo|make", 1),
  ("sms/time.go|Time.ReadFrom|index", 7),
  ("sms/time.go|Time.ReadFrom|read:Read", 1)] := rfl

end Smpp.Properties.SmsSource

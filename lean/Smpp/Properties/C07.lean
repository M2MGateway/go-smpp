/-
C07 — Multipart composition: every segment fits, is labelled, and loses nothing.
-/
import Smpp.Properties.SrcCompose
import Smpp.Proofs.SplitterProofs
import Smpp.Properties.C07Known
import Smpp.Model.Combiner
import Smpp.Proofs.Gsm7Text
import Smpp.Proofs.Utf16
import Smpp.Generated.CodingFacts
import Smpp.Proofs.Lits

namespace Smpp.Properties.C07
open Smpp.Pdu Smpp.Splitter Smpp.Combiner Smpp.Generated

/-! ## expectations on regenerated facts -/

theorem splitter_source : splitterDefs = [
  "_7BitSplitter Splitter = func(r rune) int { switch r { case '\\f', '[', '\\\\', ']', '^', '{', '|', '}', '~', '€': return 14 } return 7 }",
  "_1ByteSplitter Splitter = func(rune) int { return 8 }",
  "_MultibyteSplitter Splitter = func(r rune) int { if r < 0x7F { return 8 } return 16 }",
  "_UTF16Splitter Splitter = func(r rune) int { if (r <= 0xD7FF) || ((r >= 0xE000) && (r <= 0xFFFF)) { return 16 } return 32 }"] := rfl

theorem split_source : codingStmts.filter (fun s => s.startsWith "Splitter.") = [
  "Splitter.Len: for _, point := range input { n += fn(point) }",
  "Splitter.Len: if n%8 != 0 { n += 8 - n%8 }",
  "Splitter.Len: return n / 8",
  "Splitter.Split: limit *= 8",
  "Splitter.Split: points := []rune(input)",
  "Splitter.Split: var start, length int",
  "Splitter.Split: for i := 0; i < len(points); i++ { length += fn(points[i]) if length > limit { segments = append(segments, string(points[start:i])) start, length = i, 0 i-- } }",
  "Splitter.Split: if length > 0 { segments = append(segments, string(points[start:])) }",
  "Splitter.Split: return"] :=
  Lits.filter (startsWith_ofList · _) (by repeat constructor) (by repeat constructor) (by decide +kernel)

/-- the limit (140 - 1 - header.Len()), the 254 ceiling, and Len/Set of the concatenation element -/
theorem compose_source :
    composeStmts.filter (fun s => !(s.startsWith "ComposeMultipartShortMessage: if coding.Splitter() == nil")
        && !(s.startsWith "ComposeMultipartShortMessage: for _, segment")) = [
  "ComposeMultipartShortMessage: header := ConcatenatedHeader{Reference: reference}",
  "ComposeMultipartShortMessage: segments := coding.Splitter().Split(input, MaxShortMessageLength-1-header.Len())",
  "ComposeMultipartShortMessage: if len(segments) > 0xFE { err = ErrMultipartTooMuch return }",
  "ComposeMultipartShortMessage: header.TotalParts = byte(len(segments))",
  "ComposeMultipartShortMessage: encoder := coding.Encoding().NewEncoder()",
  "ComposeMultipartShortMessage: part := ShortMessage{DataCoding: coding}",
  "ComposeMultipartShortMessage: return",
  "ConcatenatedHeader.Len: if h.Reference <= 0xFF { return 5 }",
  "ConcatenatedHeader.Len: return 6",
  "ConcatenatedHeader.Set: var buf bytes.Buffer",
  "ConcatenatedHeader.Set: _ = binary.Write(&buf, binary.BigEndian, h)",
  "ConcatenatedHeader.Set: if data := buf.Bytes(); data[0] == 0 { udh[0x00] = data[1:4] } else { udh[0x08] = data }"] :=
  Lits.filter (fun l => congrArg₂ (!· && !·) (startsWith_ofList l _) (startsWith_ofList l _))
    (by repeat constructor) (by repeat constructor) (by decide +kernel)

/-- the per-segment loop resets the encoder and builds a fresh header map -/
theorem compose_loop_source :
    (composeStmts.filter (fun s => s.startsWith "ComposeMultipartShortMessage: for _, segment")) = [
  "ComposeMultipartShortMessage: for _, segment := range segments { encoder.Reset() part.UDHeader = make(UserDataHeader) if part.Message, err = encoder.Bytes([]byte(segment)); err != nil { return } header.Sequence++ header.Set(part.UDHeader) parts = append(parts, part) }"] :=
  Lits.filter (startsWith_ofList · _) (by repeat constructor) (by repeat constructor) (by decide +kernel)

/-- the splitter's extension list is the encoder's escape table -/
theorem ext_is_escape_table : gsmExt = gsmEscapes.map (·.1) := by decide +kernel

/-- the width function compose uses -/
def w (c : Nat) : Nat → Nat := fun r => (width c r).getD 0

theorem w_bounds (c : Nat) (h : (width c 0).isSome = true) (r : Nat) : 0 < w c r ∧ w c r ≤ 32 := by
  unfold w width at *
  grind

theorem concatLen_val (ref : Nat) : concatLen ref ≤ 6 := by
  unfold concatLen; split <;> omega

/-- the element Set writes (IEI + IEIDL + data) has the size Len announces, so the splitter's limit
140 - 1 - Len() is exactly what remains beside UDHL and the element -/
theorem udh_size (ref total seq : Nat) (href : ref < 65536) :
    udhLen (some (concatUdh ref total seq)) = 1 + concatLen ref := by
  have hc : ref / 256 % 256 = 0 ↔ ref ≤ 0xFF := by omega
  simp only [concatUdh, concatLen, hc]
  split <;> rfl

/-- **labels**: the element decodes (through the library's own accessor) to the caller's reference,
the total and the sequence number -/
theorem label_decodes (ref total seq : Nat) (href : ref < 65536) (ht : total < 256) (hs : seq < 256) :
    concatHeader (some (concatUdh ref total seq)) = .ok (some ⟨ref, total, seq⟩) := by
  -- what the accessor reads from either form of the element, by computation
  have h0 (a b c : UInt8) : concatHeader (some [(0, [a, b, c])]) = .ok (some ⟨a.toNat, b.toNat, c.toNat⟩) := rfl
  have h8 (a b c d : UInt8) :
      concatHeader (some [(8, [a, b, c, d])]) = .ok (some ⟨a.toNat * 256 + b.toNat, c.toNat, d.toNat⟩) := rfl
  have hb {n : Nat} (h : n < 256) : (UInt8.ofNat n).toNat = n := u8_ofNat_toNat (by omega)
  unfold concatUdh
  split
  · rw [h0, hb (n := ref) (by omega), hb ht, hb hs]
  · rw [h8, hb (n := ref / 256) (by omega), hb ht, hb hs, UInt8.toNat_ofNat', Nat.div_add_mod']

/-- `compose` for a coding that has a splitter, in terms of `w` -/
theorem compose_eq (c : Nat) (acc : List Nat → Bool) (ref : Nat) (t : List Nat) (hw : (width c 0).isSome = true) :
    compose c acc ref t =
      if len (w c) t ≤ 140 then
        if acc t then .ok [⟨none, t⟩] else .error .encoder
      else
        let segs := split (w c) (140 - 1 - concatLen ref) t
        if segs.length > 254 then .error .tooMany
        else if segs.all acc then
          .ok (segs.zipIdx.map fun (s, i) => ⟨some (concatUdh ref segs.length (i + 1)), s⟩)
        else .error .encoder := by
  obtain ⟨n, hn⟩ := Option.isSome_iff_exists.mp hw
  unfold compose
  simp only [hn]
  rfl

/-- **single part**: a text whose estimate is at most 140 octets gives one part without header -/
theorem C07_single (c : Nat) (acc : List Nat → Bool) (ref : Nat) (t : List Nat) (parts : List Part)
    (hw : (width c 0).isSome = true) (hl : len (w c) t ≤ 140) (h : compose c acc ref t = .ok parts) :
    parts = [⟨none, t⟩] := by
  rw [compose_eq c acc ref t hw, if_pos hl] at h
  split at h
  · exact (Except.ok.inj h).symm
  · cases h

theorem compose_multi (c : Nat) (acc : List Nat → Bool) (ref : Nat) (t : List Nat) (parts : List Part)
    (hw : (width c 0).isSome = true) (hl : ¬ len (w c) t ≤ 140) (h : compose c acc ref t = .ok parts) :
    let segs := split (w c) (140 - 1 - concatLen ref) t
    segs.length ≤ 254 ∧
    parts = segs.zipIdx.map (fun (s, i) => ⟨some (concatUdh ref segs.length (i + 1)), s⟩) := by
  rw [compose_eq c acc ref t hw, if_neg hl] at h
  intro segs
  change (if segs.length > 254 then _ else if segs.all acc then _ else _) = _ at h
  split at h
  · cases h
  · next hmany =>
    split at h
    · exact ⟨Nat.le_of_not_lt hmany, (Except.ok.inj h).symm⟩
    · cases h

/-- **ceiling**: a text needing more than 254 parts is refused -/
theorem C07_ceiling (c : Nat) (acc : List Nat → Bool) (ref : Nat) (t : List Nat)
    (hw : (width c 0).isSome = true) (hl : ¬ len (w c) t ≤ 140)
    (hmany : (split (w c) (140 - 1 - concatLen ref) t).length > 254) :
    compose c acc ref t = .error .tooMany := by
  rw [compose_eq c acc ref t hw, if_neg hl]
  exact if_pos hmany

/-- **nothing lost**: the texts of the parts, joined in order, are the input — no rune dropped,
duplicated or cut (the splitter cuts between runes, never inside one) -/
theorem C07_partition (c : Nat) (acc : List Nat → Bool) (ref : Nat) (t : List Nat) (parts : List Part)
    (hw : (width c 0).isSome = true) (h : compose c acc ref t = .ok parts) :
    (parts.map (·.text)).flatten = t := by
  by_cases hl : len (w c) t ≤ 140
  · rw [C07_single c acc ref t parts hw hl h]; simp
  · obtain ⟨_, hp⟩ := compose_multi c acc ref t parts hw hl h
    rw [hp, List.map_map]
    exact (congrArg _ (List.zipIdx_map_fst 0 _)).trans (split_flatten (w c) _ (fun r => (w_bounds c hw r).1) t)

/-- **every segment fits**: in a multi-part result each part's text needs at most
(140 - 1 - Len()) octets by the splitter's own count, which together with the 1 + Len()
octets of UDHL and element is at most 140 — provided the coding's encoder never needs more octets
than the splitter budgets (`size s ≤ len w s`; see the instantiations below and the known finding
for EUC-JP / ISO-2022-JP). -/
theorem C07_fits (c : Nat) (acc : List Nat → Bool) (ref : Nat) (t : List Nat) (parts : List Part)
    (size : List Nat → Nat) (hsound : ∀ s, size s ≤ len (w c) s)
    (hw : (width c 0).isSome = true) (href : ref < 65536) (hl : ¬ len (w c) t ≤ 140)
    (h : compose c acc ref t = .ok parts) :
    ∀ p ∈ parts, udhLen p.udh + size p.text ≤ 140 := by
  obtain ⟨_, hp⟩ := compose_multi c acc ref t parts hw hl h
  intro p hpm
  rw [hp] at hpm
  simp only [List.mem_map] at hpm
  obtain ⟨⟨s, i⟩, hmem, rfl⟩ := hpm
  have hs : s ∈ split (w c) (140 - 1 - concatLen ref) t := List.fst_mem_of_mem_zipIdx hmem
  have hcl := concatLen_val ref
  have hfit := (split_fits (w c) (140 - 1 - concatLen ref)
    (fun r => ⟨(w_bounds c hw r).1, by have := (w_bounds c hw r).2; omega⟩) t s hs).1
  have hsz := hsound s
  simp only [udh_size ref _ (i + 1) href]
  unfold len at hsz
  omega

/-- **labels**: in a multi-part result of N parts, part i (counting from 1) carries exactly one
information element, and the library's own accessor reads (reference, N, i) from it -/
theorem C07_labels (c : Nat) (acc : List Nat → Bool) (ref : Nat) (t : List Nat) (parts : List Part)
    (hw : (width c 0).isSome = true) (href : ref < 65536) (hl : ¬ len (w c) t ≤ 140)
    (h : compose c acc ref t = .ok parts) (i : Nat) (p : Part) (hp : parts[i]? = some p) :
    parts.length ≤ 254 ∧ (∃ el, p.udh = some [el]) ∧
      concatHeader p.udh = .ok (some ⟨ref, parts.length, i + 1⟩) := by
  obtain ⟨hn, hps⟩ := compose_multi c acc ref t parts hw hl h
  have hlen : parts.length = (split (w c) (140 - 1 - concatLen ref) t).length := by rw [hps]; simp
  have hi : i < parts.length := (List.getElem?_eq_some_iff.mp hp).1
  rw [hps, List.getElem?_map, List.getElem?_zipIdx] at hp
  simp only [Nat.zero_add, Option.map_map, Option.map_eq_some_iff] at hp
  obtain ⟨s, -, rfl⟩ := hp
  refine ⟨by omega, ?_, ?_⟩
  · simp only [concatUdh]; split <;> exact ⟨_, rfl⟩
  · rw [hlen]
    exact label_decodes ref _ (i + 1) href (by omega) (by omega)

/-- **maximality** (any width function): a part other than the last was closed only because the
first rune of the next part would not have fitted the splitter's budget -/
theorem C07_maximal (c : Nat) (ref : Nat) (t : List Nat) (pre : List (List Nat)) (a b : List Nat)
    (post : List (List Nat)) (h : split (w c) (140 - 1 - concatLen ref) t = pre ++ a :: b :: post) :
    ∃ r b', b = r :: b' ∧ bits (w c) a + w c r > (140 - 1 - concatLen ref) * 8 :=
  split_maximal (w c) _ t pre a b post h

/-! ## the encoders the fit theorem applies to (octets needed ≤ the splitter's estimate) -/

/-- single-octet charsets (ASCII, Latin-1, Cyrillic, Hebrew): one octet per rune -/
theorem sound_single_octet (c : Nat) (hc : c = 1 ∨ c = 3 ∨ c = 6 ∨ c = 7) (s : List Nat) :
    s.length ≤ len (w c) s := by
  have := flatMap_le_bits (w c) 8 (fun r => [r]) s fun r => by
    rcases hc with rfl | rfl | rfl | rfl <;> simp [w, width]
  rw [List.flatMap_singleton'] at this
  unfold len; omega

/-- UCS-2: 2 octets in the BMP, 4 beyond -/
theorem sound_ucs2 (s : List Nat) : (Smpp.Coding.encUcs2 s).length ≤ len (w 8) s := by
  have := flatMap_le_bits (w 8) 8 Smpp.Coding.utf16be s fun r => by
    rw [Smpp.Coding.utf16be_length]
    unfold w width
    grind
  unfold len Smpp.Coding.encUcs2; omega

/-- one rune: an escaped rune is in the escape table = the splitter's extension list, width 14 -/
theorem runeSeptets_width {r : Nat} {c : List Nat}
    (h : Smpp.Gsm7.runeSeptets gsmReverse gsmEscapes r = some c) : 7 * c.length ≤ w 0 r := by
  unfold Smpp.Gsm7.runeSeptets at h
  split at h
  · cases h
    simp only [w, width, ↓reduceIte, Option.getD_some, List.length_singleton]
    split <;> omega
  · simp only [Smpp.Gsm7.escapeOf, Option.map_map, Option.map_eq_some_iff] at h
    obtain ⟨p, hp, rfl⟩ := h
    have hmem : r ∈ gsmExt := by
      rw [ext_is_escape_table]
      exact List.mem_map.mpr ⟨p, List.mem_of_find?_eq_some hp, by simpa using List.find?_some hp⟩
    simp [w, width, hmem]

/-- GSM 7-bit: ⌈7n/8⌉ octets for n septets, extension characters counting twice on both sides -/
theorem sound_gsm7 (s sept : List Nat) (hs : Smpp.Gsm7.toSeptets gsmReverse gsmEscapes s = some sept) :
    (Smpp.Gsm7.pack sept).length ≤ len (w 0) s := by
  have := flatMap_le_bits (w 0) 7 (fun r => (Smpp.Gsm7.runeSeptets gsmReverse gsmEscapes r).getD []) s fun r => by
    cases hc : Smpp.Gsm7.runeSeptets gsmReverse gsmEscapes r with
    | none => exact Nat.zero_le _
    | some c => exact runeSeptets_width hc
  rw [← Smpp.Gsm7.toSeptets_eq_flatMap hs] at this
  rw [Smpp.Gsm7.pack_length]
  unfold len; omega

/-! ## width soundness per rune, from an exhaustive sweep regenerated on every run -/

/-- **for EVERY scalar value the encoder of the coding accepts, its encoding needs no more bits than the coding's splitter budgets**
(8 x octets; GSM 7-bit: 7 x septets) — GSM 7-bit, ASCII, Latin-1, Cyrillic, Hebrew, Shift-JIS, UCS-2, EUC-KR.  The lists are
computed by the extractor with the REAL encoder and the REAL splitter over all 1,112,064 scalars. -/
theorem C07_width_sound_per_rune :
    overBudget_0 = [] ∧ overBudget_1 = [] ∧ overBudget_3 = [] ∧ overBudget_5 = [] ∧ overBudget_6 = [] ∧ overBudget_7 = [] ∧
    overBudget_8 = [] ∧ overBudget_14 = [] := by decide +kernel

/-- EUC-JP: exactly the committed set of three-octet characters exceeds its budget (known finding), nothing else -/
theorem C07_width_eucjp_known : overBudget_13 = C07Known.eucjpThreeOctet := rfl

/-! ## known finding: the multi-octet widths are not sound for EUC-JP and ISO-2022-JP -/

/-- KNOWN FINDING C07-multibyte-width: `_MultibyteSplitter` budgets 16 bits for every non-ASCII rune,
but EUC-JP needs three octets for JIS X 0212 characters (U+4E02 → 8F B0 A1) and ISO-2022-JP adds
escape sequences; the splitter's estimate for one such rune is 2 octets. -/
theorem C07_cex_width : len (w 13) [0x4E02] = 2 ∧ len (w 10) [0x65E5] = 2 := by decide

/-! ## non-vacuity -/
example : (split (w 3) 134 (List.replicate 300 65)).map List.length = [134, 134, 32] := by decide +kernel
example : (match compose 3 (fun _ => true) 0xFFFF (List.replicate 200 65) with
    | .ok ps => ps.map (fun p => (p.udh, p.text.length))
    | .error _ => []) = [(some [(8, [0xFF, 0xFF, 2, 1])], 133), (some [(8, [0xFF, 0xFF, 2, 2])], 67)] := by
  decide +kernel

end Smpp.Properties.C07

/-
C14 — Concurrent senders never interleave or tear frames on the wire.

Two layers.  (1) Octet level, from C12: a successful Marshal issues exactly ONE Write carrying the whole frame, a
failed one issues none; Send refuses a non-positive sequence number before touching the transport (regenerated
statements of Conn.Send).  Given atomic Write calls, the peer's octet stream is therefore the concatenation of the
frames in `wire` order.  (2) Frame level, over the transition system of conn.go for every reachable state and any
number of goroutines: each successful call's frame is on the wire exactly once, failed calls contribute nothing, and
the frames of one goroutine appear in its call order.
-/
import Smpp.Proofs.ConnProgress
import Smpp.Properties.ConnSource
import Smpp.Properties.C12

namespace Smpp.Properties.C14
open Smpp.Conn Smpp.Generated

/-! ## expectations on regenerated facts -/

/-- Send: sequence test first, then the deadline, then ONE call of Marshal on the transport -/
theorem send_shape : connSrc_Conn_Send = [
  "Conn.Send: sequence := ReadSequence(packet)",
  "Conn.Send: if sequence == 0 || sequence < 0 { err = ErrInvalidSequence return }",
  "Conn.Send: if c.WriteTimeout > 0 { err = c.parent.SetWriteDeadline(time.Now().Add(c.WriteTimeout)) }",
  "Conn.Send: if err == nil { _, err = Marshal(c.parent, packet) }",
  "Conn.Send: if err == io.EOF { err = ErrConnectionClosed }",
  "Conn.Send: return"] := rfl

/-! ## octet level (C12) -/

/-- a successful Marshal hands the transport one Write with the whole frame, whose first four octets state its size -/
theorem C14_send_atomic (L : Pdu.Layout) (v : List Pdu.FVal) (b : Bytes) (after : List Pdu.FVal)
    (h : Pdu.marshal L v = ⟨.ok b, after⟩) :
    C12.writes (Pdu.marshal L v) = [b] ∧ 16 ≤ b.length ∧ b.take 4 = be32 (UInt32.ofNat b.length) :=
  C12.C12_success L v b after h

/-- a failed Marshal writes nothing -/
theorem C14_failed_marshal_writes_nothing (L : Pdu.Layout) (v : List Pdu.FVal) (e : Pdu.Err) (after : List Pdu.FVal)
    (h : Pdu.marshal L v = ⟨.err e, after⟩) : C12.writes (Pdu.marshal L v) = [] :=
  C12.C12_failure L v e after h

/-! ## frame level -/

/-- **each successful call's frame is on the wire**, with the call's own sequence number -/
theorem C14_present (tbl) (hd : Distinct tbl) (hf : Fresh tbl) (s : State) (h : Reach tbl s) (i : Nat)
    (hp : (s.callers i).pc.pastWrite = true) : OutFrame.req i (tbl i).seq ∈ s.wire :=
  (inv2 tbl hd hf s h).pastWriteWire i hp

/-- **exactly once**: no call has two frames on the wire -/
theorem C14_once (tbl) (hd : Distinct tbl) (hf : Fresh tbl) (s : State) (h : Reach tbl s) :
    (s.wire.filterMap reqId).Nodup :=
  (inv4 tbl hd hf s h).wireNodup

/-- **nothing else**: a request frame on the wire belongs to a call that got past its Write, and carries that call's number -/
theorem C14_only (tbl) (hd : Distinct tbl) (hf : Fresh tbl) (s : State) (h : Reach tbl s) (i : Nat) (q : Int)
    (hw : OutFrame.req i q ∈ s.wire) : q = (tbl i).seq ∧ (s.callers i).pc.pastWrite = true :=
  (inv2 tbl hd hf s h).wireSeq i q hw

/-- **a call that fails before the transport contributes no octets**; in particular a non-positive sequence number -/
theorem C14_failed_calls_absent (tbl) (hd : Distinct tbl) (hf : Fresh tbl) (s : State) (h : Reach tbl s) (i : Nat) (q : Int)
    (hr : (s.callers i).pc = .done (.err .invalidSeq) ∨ (s.callers i).pc = .done (.err .write)) : OutFrame.req i q ∉ s.wire := by
  intro hw
  have := (C14_only tbl hd hf s h i q hw).2
  rcases hr with hr | hr <;> rw [hr] at this <;> simp [Pc.pastWrite, Result.afterWrite] at this

theorem C14_refuses_nonpositive (tbl) (hd : Distinct tbl) (hf : Fresh tbl) (s : State) (h : Reach tbl s) (i : Nat) (q : Int)
    (hs : (tbl i).seq ≤ 0) : OutFrame.req i q ∉ s.wire := by
  intro hw
  obtain ⟨_, i2, _, _⟩ := inv_all tbl hd hf s h
  have := i2.checkedPos i (Pc.pastCheck_of_pastWrite (i2.wireSeq i q hw).2)
  omega

/-- **per-goroutine order**: no frame of a later call of a goroutine precedes a frame of an earlier call of the same goroutine -/
theorem C14_thread_order (tbl) (hd : Distinct tbl) (hf : Fresh tbl) (s : State) (h : Reach tbl s) :
    s.wire.Pairwise (OrderOK tbl) :=
  (inv4 tbl hd hf s h).wireOrder

/-- the only labels that change the wire append exactly one whole frame -/
theorem C14_append_only (s s' : State) (l : Label) (h : step s l = some s') :
    s'.wire = s.wire ∨ ∃ f, s'.wire = s.wire ++ [f] := by
  rcases wire_step (step_sound s s' l h) with e | ⟨i, _, e⟩ | ⟨q, e⟩
  · exact .inl e
  · exact .inr ⟨_, e⟩
  · exact .inr ⟨_, e⟩

/-! ## non-vacuity: two goroutines, the second call of goroutine A after its first -/
def tbl3 : Nat → Caller := fun i =>
  if i = 0 then { kind := .send, seq := 5, after := none }
  else if i = 1 then { kind := .submit, seq := 6, after := none }
  else { kind := .send, seq := 7, after := some 0 }

example : ((run (init tbl3) [.start 0, .start 1, .check 1, .check 0, .write 1, .write 0, .writeRet 0, .finish 0,
    .start 2, .check 2, .write 2]).map (·.wire)) = some [.req 1 6, .req 0 5, .req 2 7] := by decide +kernel

/-- **a Send call never stays blocked**: in every reachable state where no goroutine step is enabled (and goroutine steps are
finitely many, `mu_decreases`) a Send call has returned or was never started — Send waits for nothing but the transport's Write -/
theorem C14_send_returns_at_rest (tbl) (hd : Distinct tbl) (hf : Fresh tbl) (s : State) (hr : Reach tbl s) (hq : Quiescent s)
    (i : Nat) (hk : (tbl i).kind = .send) : (s.callers i).pc = .idle ∨ ∃ r, (s.callers i).pc = .done r := by
  rcases quiescent_pc s hq i with h | h | ⟨h, _, _, _⟩
  · exact Or.inl h
  · exact Or.inr h
  · exact absurd h (invSend tbl hd hf s hr i hk)

end Smpp.Properties.C14

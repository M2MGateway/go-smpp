/-
C10 — Multipart reassembly delivers each message once, complete and unmixed.
-/
import Smpp.Proofs.Lits
import Smpp.Properties.SrcCombine
import Smpp.Proofs.CombinerProofs
import Smpp.Generated.PduFacts

namespace Smpp.Properties.C10
open Smpp.Pdu Smpp.Combiner Smpp.Generated

/-! ## expectation: the combiner's guards and its key, regenerated from the source -/

/-- the registry key is the comparable tuple (source address, destination address, reference) —
not a formatted string — and the three guards the model transcribes are in place -/
theorem combiner_source :
    accessorStmts.filter (fun s => s.startsWith "combiner") = [
      "combiner if: sm != nil",
      "combiner if: header == nil",
      "combiner if: header.Sequence == 0 || header.Sequence > header.TotalParts",
      "combiner: id := key{p.SourceAddr, p.DestAddr, header.Reference}",
      "combiner if: !ok",
      "combiner: registry[id] = make([]*DeliverSM, header.TotalParts)",
      "combiner if: len(registry[id]) != int(header.TotalParts)",
      "combiner: registry[id][header.Sequence-1] = p",
      "combiner if: isDone(id, header.TotalParts)"] :=
  Lits.filter (startsWith_ofList · _) (by repeat constructor) (by repeat constructor) (by decide +kernel)

/-- a non-concatenated PDU is handed to the callback at once, alone, and leaves the registry untouched -/
theorem C10_immediate (r : Registry) (p : Seg) (h : concatHeader p.udh = .ok none) :
    step r p = .ok (r, [[p]]) :=
  (Step.plain h).eq

/-- **Never mixed, never partial, in order.**  For ANY history of deliver_sm PDUs — any number of
concurrently arriving messages, any interleaving, duplicates, malformed segments — every list the
callback receives is either a single non-concatenated PDU or ALL N segments of one message:
same source address, destination address and reference number throughout, each announcing total
N = the length of the list, with sequence numbers 1..N in that order. -/
theorem C10_deliveries (history : List Seg) (r : Registry) (ds : List (List Seg))
    (h : run [] history = .ok (r, ds)) : ∀ d ∈ ds, GoodDelivery d :=
  (run_good (r := []) (fun _ he => nomatch he) h).2

/-- the run itself cannot fail (no history makes the combiner panic) -/
theorem C10_run_total (history : List Seg) : ∃ out, run [] history = .ok out := run_ok history []

/-- all-filled test, as a proposition -/
def Filled (l : List (Option Seg)) : Prop := ∀ o ∈ l, o.isSome = true

/-- **Exactly when the last missing segment arrives.**  For a well-formed segment of a message whose
slot array has the announced size, the callback fires on this very call iff — with this segment
in place — no slot is empty; otherwise the segment is stored and nothing is delivered. -/
theorem C10_exactly_when_complete (r : Registry) (p : Seg) (h : ConcatHeader)
    (hh : concatHeader p.udh = .ok (some h)) (h0 : h.seq ≠ 0) (h1 : h.seq ≤ h.total)
    (slots : List (Option Seg))
    (hs : (regFind r ⟨p.src, p.dst, h.reference⟩).getD (List.replicate h.total none) = slots)
    (hl : slots.length = h.total) :
    ∃ r' ds, step r p = .ok (r', ds) ∧
      (Filled (slots.set (h.seq - 1) (some p)) → ds = [(slots.set (h.seq - 1) (some p)).filterMap id]) ∧
      (¬ Filled (slots.set (h.seq - 1) (some p)) → ds = []) := by
  have ha : Arrives r p h slots := ⟨hh, h0, h1, hs⟩
  by_cases hf : Filled (slots.set (h.seq - 1) (some p))
  · exact ⟨_, _, (Step.completed ha hl hf).eq, fun _ => rfl, fun hn => absurd hf hn⟩
  · exact ⟨_, _, (Step.kept ha hl hf).eq, fun h => absurd h hf, fun _ => rfl⟩

/-! ## non-vacuity: two interleaved two-part messages whose keys collided under the old string key -/
def a12 : Addr := ⟨1, 1, [49, 50]⟩
def a1 : Addr := ⟨1, 1, [49]⟩
def d3 : Addr := ⟨3, 1, [52, 53, 54]⟩
def d23 : Addr := ⟨23, 1, [52, 53, 54]⟩
def seg (s d : Addr) (seq tag : Nat) : Seg := ⟨s, d, some [(0, [7, 2, UInt8.ofNat seq])], tag⟩

example : (match run [] [seg a12 d3 1 0, seg a1 d23 2 1, seg a1 d23 1 2, seg a12 d3 2 3] with
    | .ok (_, ds) => ds.map (·.map (·.tag))
    | .panic _ => []) = [[2, 1], [0, 3]] := by decide +kernel

/-! ## once: a delivered message is forgotten, an incomplete one is kept -/

theorem regFind_erase (r : Registry) (k : Key) : regFind (regErase r k) k = none := by
  rw [regFind, regErase, Option.map_eq_none_iff, List.find?_eq_none]
  exact fun x hx => by simpa using (List.mem_filter.mp hx).2

theorem regFind_set (r : Registry) (k : Key) (s : List (Option Seg)) : regFind (regSet r k s) k = some s := by
  simp [regFind, regSet]

/-- **Once.**  On the call that completes a message the registry entry of its key (source address,
destination address, reference) is removed: none of the delivered segments is retained, so a
later delivery under that key can only be built from segments that arrive afterwards — the same
arrivals are never delivered twice.  On a call that does not complete it, the entry holds exactly
the slots with this segment in place. -/
theorem C10_once (r : Registry) (p : Seg) (h : ConcatHeader)
    (hh : concatHeader p.udh = .ok (some h)) (h0 : h.seq ≠ 0) (h1 : h.seq ≤ h.total)
    (slots : List (Option Seg))
    (hs : (regFind r ⟨p.src, p.dst, h.reference⟩).getD (List.replicate h.total none) = slots)
    (hl : slots.length = h.total) :
    ∃ r' ds, step r p = .ok (r', ds) ∧
      (Filled (slots.set (h.seq - 1) (some p)) → regFind r' ⟨p.src, p.dst, h.reference⟩ = none) ∧
      (¬ Filled (slots.set (h.seq - 1) (some p)) →
        regFind r' ⟨p.src, p.dst, h.reference⟩ = some (slots.set (h.seq - 1) (some p))) := by
  have ha : Arrives r p h slots := ⟨hh, h0, h1, hs⟩
  by_cases hf : Filled (slots.set (h.seq - 1) (some p))
  · exact ⟨_, _, (Step.completed ha hl hf).eq, fun _ => regFind_erase _ _, fun hn => absurd hf hn⟩
  · exact ⟨_, _, (Step.kept ha hl hf).eq, fun h => absurd h hf, fun _ => regFind_set _ _ _⟩

/-- **Never more often than it arrived.**  For ANY history and any PDU x: the number of times x occurs in
the deliveries (all of them, flattened) is at most the number of times x occurs in the history. -/
theorem C10_at_most_once (history : List Seg) (r : Registry) (ds : List (List Seg))
    (h : run [] history = .ok (r, ds)) (x : Seg) : ds.flatten.count x ≤ history.count x := by
  have := run_count x h
  simp only [stored, List.flatMap_nil, List.count_nil] at this
  omega

/-- **Nothing fabricated.**  Every PDU handed to the callback is one that arrived. -/
theorem C10_delivered_arrived (history : List Seg) (r : Registry) (ds : List (List Seg))
    (h : run [] history = .ok (r, ds)) (x : Seg) (hx : x ∈ ds.flatten) : x ∈ history :=
  List.count_pos_iff.mp (Nat.lt_of_lt_of_le (List.count_pos_iff.mpr hx) (C10_at_most_once history r ds h x))

/-- **Once.**  When the PDUs of the history are pairwise distinct (each arrival is its own PDU: `tag` is its
position), no PDU is handed to the callback twice — neither within one delivery nor in two. -/
theorem C10_no_redelivery (history : List Seg) (r : Registry) (ds : List (List Seg))
    (h : run [] history = .ok (r, ds)) (hn : history.Nodup) : ds.flatten.Nodup :=
  List.nodup_iff_count.mpr fun x => Nat.le_trans (C10_at_most_once history r ds h x) (List.nodup_iff_count.mp hn x)

/-- a segment that re-arrives after its message was delivered starts a fresh message: with N > 1 it is
stored, not delivered (non-vacuity of `C10_once` on a concrete history: 1,2 delivered; 2 again: nothing) -/
example : (match run [] [seg a1 d3 1 0, seg a1 d3 2 1, seg a1 d3 2 2] with
    | .ok (r, ds) => (ds.map (·.map (·.tag)), r.length)
    | .panic _ => ([], 0)) = ([[0, 1]], 1) := by decide +kernel

/-- the hypothesis of `C10_no_redelivery` is met by the history above (distinct tags), which does make deliveries -/
example : [seg a1 d3 1 0, seg a1 d3 2 1, seg a1 d3 2 2].Nodup := by decide +kernel

end Smpp.Properties.C10

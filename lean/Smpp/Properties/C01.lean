/-
C01 — Every PDU survives Marshal → ReadPDU unchanged.
-/
import Smpp.Properties.SrcPduCodec
import Smpp.Properties.SrcPduFrame
import Smpp.Proofs.Roundtrip
import Smpp.Generated.Layouts

namespace Smpp.Properties.C01
open Smpp.Pdu Smpp.Generated

/-! ## expectations on the regenerated facts (these are what a layout edit breaks) -/

/-- Every PDU struct: tagged Header first, no second header, Tags only as the last field, the
field named ESMClass is an ESMClass and precedes the short message, command_id fits 32 bits. -/
theorem layouts_ok : ∀ L ∈ pduLayouts, LayoutOK L = true := by decide +kernel

/-- The command_id → type registry finds every layout (ids are pairwise distinct). -/
theorem layouts_registered : ∀ L ∈ pduLayouts, lookupLayout pduLayouts L.id = some L :=
  fun _ => lookupLayout_mem (by decide +kernel)

/-- factory.go registers exactly the struct types packet.go declares with an `id` tag, and the
harness reflects over exactly those. -/
theorem registry_complete :
    registeredTypes = declaredTypes ∧ pduLayouts.map (·.name) = declaredTypes := ⟨rfl, rfl⟩

theorem thirty_three_types : pduLayouts.length = 33 := rfl

/-- Fields that neither reflection walk touches. -/
def skippedFields : List (String × String) :=
  pduLayouts.flatMap fun L => L.fields.filterMap fun f =>
    match f.kind with
    | .skipped _ => some (L.name, f.name)
    | _ => none

/-- KNOWN FINDING C01-queryresp-errorcode: exactly one field is skipped by the walk
(`QuerySMResp.ErrorCode`, Go kind uint32; pinned by TestPacket's 19-octet frame).  Any other
skipped field breaks this lemma. -/
theorem skipped_known : skippedFields = [("QuerySMResp", "ErrorCode")] := rfl

/-! ## the representable domain -/

/-- The property's domain, spelled out: values of the right shape whose strings are NUL-free,
whose bit-field components fit their widths, whose maps are canonical with TLV values of
1..65534 octets and UDH element ids below 256, with a user data header present exactly when
the UDH indicator is set (never for replace_sm), data_coding ≠ 0xBF, and — because of the
known finding above — zero in any field the walk skips. -/
structure Representable (L : Layout) (h : Header) (rest : List FVal) : Prop where
  typed : Typed L.fields (.header h :: rest) = true
  wf : ∀ x ∈ rest, FValWF L.isReplace (udhiOf L.fields (.header h :: rest)) x
  tlvNonEmpty : ∀ t, FVal.tags t ∈ rest → ∀ kv ∈ t, kv.2.length ≠ 0

/-- **C01 (partial: skipped fields must be zero).**  For every registered PDU type and every
representable value, whenever Marshal succeeds with a frame of at most 64 KiB, ReadPDU on those
octets — under EVERY fragmentation `cs` of them — succeeds, consumes exactly the frame, and
returns a PDU of the same type whose header carries the frame length and the type's command_id
and whose other fields are the values Marshal left in the caller's struct. -/
theorem C01_roundtrip_partial (L : Layout) (hL : L ∈ pduLayouts) (h : Header) (rest : List FVal)
    (hrep : Representable L h rest) (b : Bytes) (after : List FVal)
    (hm : marshal L (.header h :: rest) = ⟨.ok b, after⟩) (hlen : b.length ≤ 65536)
    (cs : Stream) (hcs : cs.flatten = b) :
    (readPDU pduLayouts cs).out = .ok L.name (decodedOf L b.length after) ∧
    (readPDU pduLayouts cs).consumed = b.length :=
  readPDU_marshal pduLayouts L (layouts_ok L hL) (layouts_registered L hL) h rest hrep.typed (fun _ => hrep.wf)
    b after hm hlen cs hcs

/-- With TLV values of 1..65534 octets nothing is normalised away: for command_status 0 every
field of the decoded PDU equals the field Marshal left in the original. -/
theorem C01_fields_equal (L : Layout) (h : Header) (rest : List FVal)
    (hrep : Representable L h rest) (b : Bytes) (after : List FVal)
    (hm : marshal L (.header h :: rest) = ⟨.ok b, after⟩) (hst : h.status = 0) :
    ∃ rest', after = .header ⟨h.len, UInt32.ofNat L.id, 0, h.seq⟩ :: rest' ∧
      decodedOf L b.length after
        = .header ⟨UInt32.ofNat b.length, UInt32.ofNat L.id, 0, h.seq⟩ :: rest' ∧
      rest' = rest.map (afterEnc L.isReplace (udhiOf L.fields (.header h :: rest))) := by
  obtain ⟨_, body, rest', he, _, rfl⟩ := marshal_ok_iff.mp hm
  rw [encBody, hst] at he
  -- the values Marshal leaves are the originals with the short message Prepared
  have hr := encFields_snd he
  refine ⟨rest', by rw [hst], ?_, hr⟩
  -- non-empty TLV values are not normalised away
  have hnorm : rest'.map normVal = rest' := by
    rw [hr, List.map_map]
    apply List.map_congr_left
    intro x hx
    cases x with
    | tags t =>
      have : dropEmpty t = t :=
        List.filter_eq_self.mpr fun kv hkv => by simpa using hrep.tlvNonEmpty t hx kv hkv
      simp [afterEnc, normVal, this]
    | _ => simp [afterEnc, normVal]
  simp [decodedOf, hst, hnorm]

/-! ## known finding: the full-strength statement fails for the skipped field -/

/-- The property at full strength (no exclusion of skipped fields): every field survives. -/
def C01_full : Prop :=
  ∀ L ∈ pduLayouts, ∀ (h : Header) (rest : List FVal) (b : Bytes) (after : List FVal),
    Typed L.fields (.header h :: rest) = true → h.status = 0 →
    (∀ x ∈ rest, match x with | .skipped _ => True | y => FValWF L.isReplace false y) →
    marshal L (.header h :: rest) = ⟨.ok b, after⟩ →
    (readPDU pduLayouts [b]).out = .ok L.name (.header ⟨UInt32.ofNat b.length, UInt32.ofNat L.id, 0, h.seq⟩ :: rest)

def qsrLayout : Layout :=
  { name := "QuerySMResp", id := 0x80000003, isReplace := false,
    fields := [⟨"Header", .header⟩, ⟨"MessageID", .cstr⟩, ⟨"FinalDate", .cstr⟩, ⟨"MessageState", .u8⟩,
      ⟨"ErrorCode", .skipped "uint32"⟩] }

def qsrValue : List FVal := [.cstr [], .cstr [], .u8 0, .skipped 7]

/-- KNOWN FINDING C01-queryresp-errorcode, witness: QuerySMResp{ErrorCode: 7} marshals to the
19-octet frame without error_code and decodes with ErrorCode = 0. -/
theorem C01_cex_queryresp_errorcode : ¬ C01_full := by
  intro hfull
  have hmem : qsrLayout ∈ pduLayouts :=
    List.mem_of_find?_eq_some (show lookupLayout pduLayouts 0x80000003 = some qsrLayout by decide +kernel)
  have hwf : ∀ x ∈ qsrValue, match x with | .skipped _ => True | y => FValWF qsrLayout.isReplace false y := by
    intro x hx
    simp only [qsrValue, List.mem_cons, List.not_mem_nil, or_false] at hx
    rcases hx with rfl | rfl | rfl | rfl <;> simp [FValWF, NulFree]
  have := hfull qsrLayout hmem ⟨0, 0, 0, 5⟩ qsrValue _ _ (by decide) rfl hwf rfl
  revert this
  decide +kernel

/-! ## non-vacuity: a concrete non-trivial value meets the hypotheses -/

def exLayout : Layout :=
  { name := "SubmitSM", id := 0x4, isReplace := false,
    fields := [⟨"Header", .header⟩, ⟨"ServiceType", .cstr⟩, ⟨"SourceAddr", .addr⟩, ⟨"DestAddr", .addr⟩,
      ⟨"ESMClass", .esm⟩, ⟨"ProtocolID", .u8⟩, ⟨"PriorityFlag", .u8⟩, ⟨"ScheduleDeliveryTime", .cstr⟩,
      ⟨"ValidityPeriod", .cstr⟩, ⟨"RegisteredDelivery", .regdlv⟩, ⟨"ReplaceIfPresent", .bool⟩,
      ⟨"Message", .sm⟩, ⟨"Tags", .tags⟩] }

def exRest : List FVal :=
  [.cstr [65], .addr ⟨1, 1, [49, 50]⟩, .addr ⟨1, 1, [51]⟩, .esm ⟨0, 0, true, false⟩, .u8 0, .u8 1, .cstr [],
   .cstr [], .regdlv ⟨1, 0, false, 0⟩, .bool true,
   .sm ⟨0, 8, some [(0, [7, 2, 1]), (5, [1, 2, 3, 4])], [104, 105]⟩, .tags [(0x204, [0, 1]), (0x424, [9])]]

example : exLayout ∈ pduLayouts :=
  List.mem_of_find?_eq_some (show lookupLayout pduLayouts 4 = some exLayout by decide +kernel)

example : Representable exLayout ⟨0, 0, 0, 7⟩ exRest := by
  refine ⟨by decide, ?_, ?_⟩
  · intro x hx
    simp only [exRest, List.mem_cons, List.not_mem_nil, or_false] at hx
    rcases hx with rfl | rfl | rfl | rfl | rfl | rfl | rfl | rfl | rfl | rfl | rfl | rfl <;>
      simp only [FValWF] <;> trivial
  · intro t ht kv hkv
    simp only [exRest, List.mem_cons, FVal.tags.injEq, List.not_mem_nil, or_false, reduceCtorEq, false_or] at ht
    subst ht
    simp at hkv
    rcases hkv with rfl | rfl <;> decide

example : ((marshal exLayout (.header ⟨0, 0, 0, 7⟩ :: exRest)).res.isOk) = true := by decide +kernel

end Smpp.Properties.C01

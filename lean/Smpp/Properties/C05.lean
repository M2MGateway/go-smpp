/-
C05 — Submit returns exactly its own response under every schedule.

Theorems over the small-step model of conn.go (Smpp/Model/Conn.lean), for EVERY reachable state: any number
of callers with distinct sequence numbers, any interleaving of {request handed to the transport, transport
write returns, response readable, Watch dispatches}, any response order, any placement of peer-originated
PDUs.  The model is tied to conn.go by the regenerated source snapshot (Properties/ConnSource.lean) and by the
scenario correspondence run (ops `conn …` through a scripted transport).
-/
import Smpp.Proofs.ConnProgress
import Smpp.Properties.ConnSource
import Smpp.Generated.PduFacts
import Smpp.Generated.Layouts

namespace Smpp.Properties.C05
open Smpp.Conn Smpp.Generated

/-! ## expectations on regenerated facts -/

/-- Submit registers its callback BEFORE it sends (the order the proofs rest on), unregisters on every return path,
and waits on a one-slot channel -/
theorem submit_shape : connSrc_Conn_Submit = [
  "Conn.Submit: sequence := c.NextSequence()",
  "Conn.Submit: WriteSequence(packet, sequence)",
  "Conn.Submit: returns := make(chan interface{}, 1)",
  "Conn.Submit: c.register(sequence, func(resp interface{}) { returns <- resp })",
  "Conn.Submit: defer c.register(sequence, nil)",
  "Conn.Submit: if err = c.Send(packet); err != nil { return }",
  "Conn.Submit: select { case <-c.ctx.Done(): err = ErrConnectionClosed case <-ctx.Done(): err = ctx.Err() case resp = <-returns: }",
  "Conn.Submit: return"] := rfl

/-- every Resp() copies the request's sequence number … -/
theorem resp_copies_sequence : respTable.all (fun r => r.2.2) = true := by decide +kernel

def idOf (name : String) : Option Nat := (pduLayouts.find? (·.name == name)).map (·.id)

/-- … into the paired response type: command_id = request id with the top bit set; all 15 request types -/
theorem resp_ids : respTable.length = 15 ∧
    respTable.all (fun r => match idOf r.1, idOf r.2.1 with
      | some a, some b => a < 0x80000000 && b == a + 0x80000000
      | _, _ => false) = true := by decide +kernel

/-- and every request type that has a response type in the registry has a Resp() -/
theorem resp_complete : (pduLayouts.filter fun L => L.id < 0x80000000 && pduLayouts.any (fun R => R.id == L.id + 0x80000000)).all
    (fun L => respTable.any (·.1 == L.name)) = true := by decide +kernel

/-! ## safety: every reachable state -/

/-- **own response**: whatever Submit returns without error carries the caller's own sequence number -/
theorem C05_own (tbl) (hd : Distinct tbl) (hf : Fresh tbl) (s : State) (h : Reach tbl s) (i : Nat) (p : InPdu)
    (hr : (s.callers i).pc = .done (.resp p)) : p.seq = (tbl i).seq :=
  (inv1 tbl hd hf s h).resultSeq i p (by rw [hr]; rfl)

/-- **no leak to the application**: a response the peer produced for request i is never delivered on PDU() while the
call is outstanding — if it is there, the call had already returned (its own context or the connection ended) -/
theorem C05_no_leak (tbl) (hd : Distinct tbl) (hf : Fresh tbl) (s : State) (h : Reach tbl s) (i : Nat) (p : InPdu)
    (hp : p ∈ s.delivered) (ho : p.origin = .ans i) (hk : (tbl i).kind ≠ .send) : (s.callers i).pc.departed = true := by
  obtain ⟨_, _, i3, _⟩ := inv_all tbl hd hf s h
  exact i3.noLeak p i (i3.missBound.1.subset hp) ho hk

/-- **no leak to another caller**: the response to request i never becomes the result of a different call -/
theorem C05_not_to_other (tbl) (hd : Distinct tbl) (hf : Fresh tbl) (s : State) (h : Reach tbl s) (i j : Nat) (p : InPdu)
    (hr : (s.callers j).pc.result? = some (.resp p)) (ho : p.origin = .ans i)
    (hki : (tbl i).kind ≠ .send) (hkj : (tbl j).kind ≠ .send) : i = j := by
  obtain ⟨i1, i2, _, _⟩ := inv_all tbl hd hf s h
  have h1 := i1.resultSeq j p hr
  have h2 := (i2.origin p i (heldFor.located (i := j) (.inr (.inr hr))) ho).1
  exact Classical.byContradiction fun hij => hd i j hij hki hkj (h2.symm.trans h1)

/-- the response slot only ever holds the caller's own response, so the final select cannot hand out a foreign PDU -/
theorem C05_slot (tbl) (hd : Distinct tbl) (hf : Fresh tbl) (s : State) (h : Reach tbl s) (i : Nat) (p : InPdu)
    (hb : (s.callers i).box = some p) : p.seq = (tbl i).seq :=
  (inv1 tbl hd hf s h).boxSeq i p hb

/-- progress, local form: a caller whose response has been put in its slot can take it at once (no further event needed) -/
theorem C05_take_enabled (s : State) (i : Nat) (p : InPdu) (hw : (s.callers i).pc = .waiting)
    (hb : (s.callers i).box = some p) : ∃ s', step s (.takeResp i) = some s' ∧ (s'.callers i).pc = .leaving (.resp p) := by
  simp [step, hw, hb]

/-! ## "every Submit call returns": progress

The environment of C05 (`ReachP`): the peer answers requests — calls that expect a response — each at most once, and
originates PDUs only under sequence numbers of its own.  Goroutine steps (`Label.internal`) are the steps of callers past
their start, of Watch, and the transport's Write returning.  The statement is in two halves, which together say that under
ANY schedule in which enabled goroutine steps are eventually taken, every answered Submit returns its own response:

 1. `C05_no_livelock`: from any reachable state ANY sequence of goroutine steps is finite, of length at most the measure
    `mu n s` (n bounding the calls started so far) — so after the last environment event the goroutines come to rest;
 2. `C05_returns_own_response`: in EVERY reachable state at rest in which neither context is done and the application is
    draining, a Submit whose answer the peer has sent HAS RETURNED, and returned exactly its own response;
    `C05_waits_for_answer`: one whose answer has not been sent yet is waiting with its request at the peer, so that the
    peer's answer is enabled (nothing else is needed for it to complete). -/

theorem C05_no_livelock (tbl) (hd : Distinct tbl) (hf : Fresh tbl) (n : Nat) (ls : List Label) (s s' : State)
    (hr : ReachP tbl s) (hb : Bounded n s) (hall : ∀ l ∈ ls, l.internal = true) (hrun : run s ls = some s') :
    ls.length ≤ mu n s :=
  Nat.le_trans (Nat.le_add_right _ _) (internal_run_bound tbl hd hf n ls s s' hr hb hall hrun).1

theorem C05_returns_own_response (tbl) (hd : Distinct tbl) (hf : Fresh tbl) (s : State) (hr : ReachP tbl s)
    (hq : Quiescent s) (i : Nat) (hkind : (tbl i).kind = .submit) (hans : (s.callers i).answered = true)
    (hconn : s.connDone = false) (hown : (s.callers i).ownDone = false) (hdrain : s.draining = true) :
    (s.callers i).pc = .done (.resp ⟨(tbl i).seq, .ans i⟩) :=
  answered_returns tbl hd hf s hr hq i hkind hans hconn hown hdrain

theorem C05_waits_for_answer (tbl) (hd : Distinct tbl) (hf : Fresh tbl) (s : State) (hr : ReachP tbl s)
    (hq : Quiescent s) (i : Nat) (hkind : (tbl i).kind = .submit) (hstarted : (s.callers i).pc ≠ .idle)
    (hpos : 0 < (tbl i).seq) (hans : (s.callers i).answered = false)
    (hconn : s.connDone = false) (hown : (s.callers i).ownDone = false) (hwb : s.writeBroken = false) :
    (s.callers i).pc = .waiting ∧ (step s (.peerAnswer i)).isSome = true :=
  unanswered_waits tbl hd hf s hr hq i hkind hstarted hpos hans hconn hown hwb

/-- **Every answered Submit can run to completion on goroutine steps alone**, from every reachable calm state (connection
live, transport open, nothing fatal queued, application draining, no Close call): no further event from the peer, the
application or a timer is needed.  Together with `C05_no_livelock` (every goroutine run is finite) and
`C05_returns_own_response` (where it stops, the call has returned its own response) this is "every Submit call returns …
the PDU whose sequence number equals that of its own request" under any schedule that keeps taking enabled goroutine steps. -/
theorem C05_completion_reachable (tbl) (hd : Distinct tbl) (hf : Fresh tbl) (n : Nat) (s : State) (i : Nat)
    (hkind : (tbl i).kind = .submit) (hr : ReachP tbl s) (hb : Bounded n s) (hc : Calm s)
    (hans : (s.callers i).answered = true) (hown : (s.callers i).ownDone = false) :
    ∃ ls s', (∀ l ∈ ls, l.internal = true) ∧ run s ls = some s' ∧
      (s'.callers i).pc = .done (.resp ⟨(tbl i).seq, .ans i⟩) :=
  completion_reachable tbl hd hf n i hkind s hr hb hc hans hown

/-- Watch is never wedged on a response slot that is still full (a second copy of one answer does not exist) -/
theorem C05_watch_not_wedged (tbl) (hd : Distinct tbl) (hf : Fresh tbl) (s : State) (hr : ReachP tbl s)
    (k : Nat) (p : InPdu) (hw : s.watch = .delivering k p) : (s.callers k).box = none := by
  cases hb : (s.callers k).box with
  | none => rfl
  | some q => exact (no_double_delivery tbl hd hf s hr k p q hw hb).elim

/-! ### non-vacuity of the progress theorems: a table of Submit calls with sequence numbers 1, 2, 3, …; call 0 runs to
completion and the state reached is at rest, satisfies every premise of `C05_returns_own_response`, and shows its conclusion -/

def tblN : Nat → Caller := fun i => { kind := .submit, seq := (i : Int) + 1, after := none }

theorem tblN_distinct : Distinct tblN := by
  intro i j hij _ _ h
  simp [tblN] at h
  exact hij (by omega)

theorem tblN_fresh : Fresh tblN := by intro i; simp [tblN]

/-- the calm environment is satisfiable: the initial state of the all-Submit table -/
example : Calm (init tblN) := by simp [Calm, init, tblN]

def scriptN : List Label :=
  [.start 0, .check 0, .write 0, .writeRet 0, .peerAnswer 0, .wPoll, .wRead, .wLookup, .wDeliver, .takeResp 0, .finish 0, .wPoll]

theorem runN : ∃ s, run (init tblN) scriptN = some s ∧ (s.callers 0).pc = .done (.resp (answerOf tblN 0)) ∧
    (s.callers 0).answered = true ∧ s.connDone = false ∧ s.draining = true ∧ s.watch = .reading ∧ s.inbound = [] ∧
    s.readSide = .open ∧ (s.callers 0).ownDone = false ∧ (∀ j, j ≠ 0 → (s.callers j).pc = .idle) := by
  simp [run, scriptN, step, init, tblN, setPc, upd, predDone, answerOf]
  intro j hj; simp [hj]

example : ∃ s, ReachP tblN s ∧ Quiescent s ∧ (tblN 0).kind = .submit ∧ (s.callers 0).answered = true ∧ s.connDone = false ∧
    (s.callers 0).ownDone = false ∧ s.draining = true ∧ (s.callers 0).pc = .done (.resp ⟨(tblN 0).seq, .ans 0⟩) := by
  obtain ⟨s, hrun, hpc, hans, hc, hdr, hw, hin, hrs, hown, hidle⟩ := runN
  -- the script has no `peerUnsol`, the table no Send call
  have hadm : ∀ l ∈ scriptN, AdmissibleP tblN l := fun l hl =>
    admissibleP_of (by rintro q k rfl; simp [scriptN] at hl) fun k _ => by simp [tblN]
  exact ⟨s, reachP_run tblN scriptN _ s ReachP.init hadm hrun,
    quiescent_of_rest s hw hin hrs (idle_or_done_of hpc hidle), rfl, hans, hc, hown, hdr, hpc⟩

/-! ## non-vacuity: the schedule the property singles out (response dispatched before the transport's Write returns) -/

def tbl2 : Nat → Caller := fun i => if i = 0 then { kind := .submit, seq := 5, after := none } else { kind := .submit, seq := 7 + i, after := none }

example : Distinct tbl2 := by
  intro i j hij _ _
  simp only [tbl2]
  split <;> split <;> simp_all <;> omega

example : ((run (init tbl2) [.start 0, .check 0, .write 0, .peerAnswer 0, .wPoll, .wRead, .wLookup, .wDeliver,
    .writeRet 0, .takeResp 0, .finish 0]).map fun s => ((s.callers 0).pc, s.delivered)) = some (.done (.resp ⟨5, .ans 0⟩), []) := by
  decide +kernel

end Smpp.Properties.C05

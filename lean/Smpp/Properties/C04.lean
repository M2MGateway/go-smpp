/-
C04 — ReadPDU is total and memory-bounded on arbitrary bytes.

Totality: `readPDU` is a total Lean function whose result type `ReadOut` has no panic
constructor; every recursion in the decoder model (`readCStr`, `decDestsLoop`,
`decUnsuccLoop`, `decTags`, `decUdhLoop`, `decFields`) is structural or carries a measure that
Lean's termination checker accepted (remaining octets / remaining count).  What ties that to
the Go source is (a) the correspondence run of this check on arbitrary and mutated input and
(b) the inventory below: the complete list of operations in the codec files that CAN panic,
regenerated from the source on every run; each is accounted for in the model.
-/
import Smpp.Properties.SrcPduCodec
import Smpp.Properties.SrcPduFrame
import Smpp.Proofs.Framing
import Smpp.Generated.Layouts
import Smpp.Generated.PduFacts

namespace Smpp.Properties.C04
open Smpp.Pdu Smpp.Generated

/-! ## expectations on regenerated facts -/

/-- Every index / slice / unchecked type assertion in the codec files.  On the decode path:
`types[id]`, `header[id]`, `tags[..]` are map operations (cannot panic); `values[:]`,
`values[0]`, `values[1]` index a `[2]uint16` array with constants; `value[0:len-1]` follows a
successful ReadString (at least the delimiter is there); `.(ESMClass)` is guarded by
`layouts_esm_typed` below.  The remaining sites are on the encode / accessor paths (C11, C12). -/
theorem panic_sites_inventory : pduPanicSites = [
  ("pdu/address.go|Address.String|index", 1),
  ("pdu/internal.go|readCString|slice", 1),
  ("pdu/marshal.go|Marshal|slice", 1),
  ("pdu/message.go|ShortMessage.Prepare|assert", 1),
  ("pdu/message.go|ShortMessage.WriteTo|index", 1),
  ("pdu/pdu.go|ReadPDU|index", 1),
  ("pdu/tag.go|Tags.ReadFrom|index", 3),
  ("pdu/tag.go|Tags.ReadFrom|slice", 1),
  ("pdu/tag.go|Tags.WriteTo|index", 3),
  ("pdu/udh.go|UserDataHeader.ConcatenatedHeader|index", 7),
  ("pdu/udh.go|UserDataHeader.ConcatenatedHeader|slice", 1),
  ("pdu/udh.go|UserDataHeader.ReadFrom|index", 1),
  ("pdu/udh.go|UserDataHeader.WriteTo|index", 4)] := rfl

/-- The unchecked assertion `v.Interface().(ESMClass)` in Prepare cannot fail: every field named
ESMClass is an ESMClass. -/
theorem layouts_esm_typed :
    pduLayouts.all (fun L => L.fields.all (fun f => f.name != "ESMClass" || f.kind == .esm)) = true := by
  decide +kernel

/-- Allocation sizes come from the (bounded) command_length, a one-octet length, or a
two-octet length — nothing else. -/
theorem make_sites_inventory : pduMakeSites = [
  ("pdu/message.go|ShortMessage.ReadFrom|make", 1),
  ("pdu/pdu.go|ReadPDU|make", 1),
  ("pdu/tag.go|Tags.ReadFrom|make", 1),
  ("pdu/udh.go|UserDataHeader.ReadFrom|make", 1)] := rfl

/-- At most 65536 octets are taken from the reader, for every input and fragmentation. -/
theorem C04_consumed (s : Stream) : (readPDU pduLayouts s).consumed ≤ 65536 :=
  (readPDU_bounds pduLayouts s).1

/-- Either an error, or a PDU of a registered type — never neither. -/
theorem C04_classify (s : Stream) :
    (∃ e, (readPDU pduLayouts s).out = .errNil e) ∨
    (∃ e n q, (readPDU pduLayouts s).out = .errPdu e n q) ∨
    (∃ L v, L ∈ pduLayouts ∧ (readPDU pduLayouts s).out = .ok L.name v) :=
  readPDU_classify pduLayouts s

/-- A header announcing fewer than 16 or more than 65536 octets is rejected after exactly 16
octets and before any body buffer is allocated. -/
theorem C04_reject_early (s : Stream) (hdr : Header) (r : Bytes)
    (hs : s.flatten = encHeader hdr ++ r) (hbad : hdr.len.toNat < 16 ∨ hdr.len.toNat > 65536) :
    (readPDU pduLayouts s).out = .errNil (.status 2) ∧ (readPDU pduLayouts s).consumed = 16 ∧
      (readPDU pduLayouts s).allocs = [] :=
  readPDU_bad_length pduLayouts s hdr r hs hbad

/-- The only allocation ReadPDU itself sizes from the wire is the body buffer, at most 65520
octets; the decoders then work on that private copy (their own buffers are sized by one- and
two-octet length fields, see `make_sites_inventory`). -/
theorem C04_alloc (s : Stream) :
    (readPDU pduLayouts s).allocs.length ≤ 1 ∧ ∀ n ∈ (readPDU pduLayouts s).allocs, n ≤ 65520 :=
  (readPDU_bounds pduLayouts s).2.2

/-! ## non-vacuity -/
example : (readPDU pduLayouts [[0, 0, 0, 16, 0, 0, 0, 0x15, 0, 0, 0, 0, 0, 0, 0, 7]]).consumed = 16 := by
  decide +kernel
example : (readPDU pduLayouts [[0xFF, 0xFF, 0xFF, 0xFF, 0, 0, 0, 0x15], [0, 0, 0, 0, 0, 0, 0, 7, 1, 2]]).out
    = .errNil (.status 2) := by decide +kernel

end Smpp.Properties.C04

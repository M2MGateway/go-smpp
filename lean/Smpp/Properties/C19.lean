/-
C19 — SMS-DELIVER / SMS-SUBMIT TPDUs decode to the values GSM 03.40 assigns and re-encode identically.

What is proved here is field-level agreement between the model of package sms and the INDEPENDENT
layout model Spec/Gsm0340.lean, for every value of each field's domain:
first octets (all 256), relative validity periods (all 256), numeric addresses (every digit string of
1..254 digits, leading zeros, odd and even counts), time stamps (every valid civil date and time of
2000–2099 with a non-negative zone), user data.  Whole TPDUs: `C19_deliver` / `C19_submit` prove decode-to-spec-values and octet-exact
re-encoding for the sub-domain with numeric addresses (DeliverOK / SubmitOK); the rest of the domain (alphanumeric
addresses, enhanced validity periods) is checked differentially on TPDUs built by the specification (ops smsd / smss).  Four classes of the full statement are refuted by proved witnesses
(known findings).
-/
import Smpp.Proofs.SmsSpec
import Smpp.Properties.SmsSource
import Smpp.Proofs.SmsAlnum

namespace Smpp.Properties.C19
open Smpp.Sms Smpp.Time Smpp.Generated Smpp.Spec.Gsm0340

def env : Env := ⟨gsmReverse, gsmEscapes, tpduLayouts, flagLayouts⟩

/-! ## expectations on regenerated facts -/

/-- the two layouts as the walks meet them -/
def dFields : List TField := [
  ⟨"SCAddress", "SC", "", .scaddr, .scaddr⟩, ⟨"Flags", "", "MT", .flags "DeliverFlags", .flags "DeliverFlags"⟩,
  ⟨"OriginatingAddress", "OA", "", .addr, .addr⟩, ⟨"ProtocolIdentifier", "PID", "", .byte, .byte⟩,
  ⟨"DataCoding", "DCS", "", .byte, .byte⟩, ⟨"ServiceCentreTimestamp", "SCTS", "", .time, .time⟩,
  ⟨"UserData", "UD", "", .bytes, .bytes⟩]

def sFields : List TField := [
  ⟨"SCAddress", "SC", "", .scaddr, .scaddr⟩, ⟨"Flags", "", "MO", .flags "SubmitFlags", .flags "SubmitFlags"⟩,
  ⟨"MessageReference", "MR", "", .byte, .byte⟩, ⟨"DestinationAddress", "DA", "", .addr, .addr⟩,
  ⟨"ProtocolIdentifier", "PID", "", .byte, .byte⟩, ⟨"DataCoding", "DCS", "", .byte, .byte⟩,
  ⟨"ValidityPeriod", "VP", "", .iface, .iface⟩, ⟨"UserData", "UD", "", .bytes, .bytes⟩]

theorem deliver_fields : tpduLayouts.find? (·.name == "Deliver") = some ⟨"Deliver", dFields⟩ := by decide +kernel

theorem submit_fields : tpduLayouts.find? (·.name == "Submit") = some ⟨"Submit", sFields⟩ := by decide +kernel

/-- SMS-DELIVER: fields in the order of §9.2.2.1 behind the SC address, each dispatched to the codec of its kind -/
theorem deliver_layout : (tpduLayouts.find? (·.name == "Deliver")).map (fun L => L.fields.map fun f => (f.tp, f.dir, f.ukind, f.mkind)) =
    some [("SC", "", .scaddr, .scaddr), ("", "MT", .flags "DeliverFlags", .flags "DeliverFlags"), ("OA", "", .addr, .addr),
      ("PID", "", .byte, .byte), ("DCS", "", .byte, .byte), ("SCTS", "", .time, .time), ("UD", "", .bytes, .bytes)] := by
  rw [deliver_fields]; rfl

/-- SMS-SUBMIT: §9.2.2.2 -/
theorem submit_layout : (tpduLayouts.find? (·.name == "Submit")).map (fun L => L.fields.map fun f => (f.tp, f.dir, f.ukind, f.mkind)) =
    some [("SC", "", .scaddr, .scaddr), ("", "MO", .flags "SubmitFlags", .flags "SubmitFlags"), ("MR", "", .byte, .byte),
      ("DA", "", .addr, .addr), ("PID", "", .byte, .byte), ("DCS", "", .byte, .byte), ("VP", "", .iface, .iface),
      ("UD", "", .bytes, .bytes)] := by
  rw [submit_fields]; rfl

def submitKinds : List FlagKind := flagKinds flagLayouts "SubmitFlags"
def deliverKinds : List FlagKind := flagKinds flagLayouts "DeliverFlags"

/-! ## first octet -/

/-- **SMS-SUBMIT first octet**: every one of the 256 values survives decode → encode (the validity-period
format written back is the one decoded) -/
theorem C19_submit_first_octet : ∀ b : Fin 256,
    (let v := setDirection 1 submitKinds (unmarshalFlags (UInt8.ofNat b.val) submitKinds 0)
     marshalFlags submitKinds (v.set 2 (v.getD 2 0)) 0) = b.val := by decide +kernel

/-- the validity-period format the walk reads from the flags is bits 4..3 of the octet -/
theorem C19_submit_vpf : ∀ b : Fin 256,
    (unmarshalFlags (UInt8.ofNat b.val) submitKinds 0).getD 2 0 = b.val / 8 % 4 := by decide +kernel

/-- **SMS-DELIVER first octet** below 0x40 (bits 7..6 clear) survives; see `C19_cex_deliver_first_octet` -/
theorem C19_deliver_first_octet_partial : ∀ b : Fin 64,
    marshalFlags deliverKinds (setDirection 0 deliverKinds (unmarshalFlags (UInt8.ofNat b.val) deliverKinds 0)) 0 = b.val := by
  decide +kernel

/-- the message type decoded from bits 1..0 with the direction the SC address dictates selects the structure -/
theorem C19_type_dispatch :
    (∀ b : Fin 256, b.val % 4 = 0 → typeName ((b.val % 4 * 2 + 0) % 8) false = some "Deliver") ∧
    (∀ b : Fin 256, b.val % 4 = 1 → ∀ f, typeName ((b.val % 4 * 2 + 1) % 8) f = some "Submit") := by
  constructor
  · intro b hb; simp [hb, typeName]
  · intro b hb f; simp [hb, typeName]

/-! ## validity period -/

/-- **relative validity period**: all 256 values decode to the duration of §9.2.3.12.1 and re-encode to themselves
(144 = 12 h 30 min was written as 149 before 8cdadf1) -/
theorem C19_relative : ∀ n : Fin 256,
    relToSecs n.val = 60 * relativeMinutes n.val ∧ secsToRel (relToSecs n.val) = UInt8.ofNat n.val := by
  decide +kernel

/-- the relative period inside the enhanced format, and the seconds form, re-encode to the same seven octets -/
theorem C19_enhanced_simple : ∀ n : Fin 256,
    writeEnh (relToSecs n.val) 1 = .ok [1, UInt8.ofNat n.val, 0, 0, 0, 0, 0] ∧
    writeEnh n.val 2 = .ok [2, UInt8.ofNat n.val, 0, 0, 0, 0, 0] :=
  fun n => ⟨(C19_relative n).2 ▸ writeEnh_rel _, writeEnh_secs _⟩

/-! ## alphanumeric addresses (TON 101) outside the known deviation class

(Numeric addresses, the SC address and the time stamp: `numAddr_codec`, `scAddr_codec`, `timestamp_codec` of Proofs/SmsSpec.lean.)

`Proofs/SmsAlnum.lean` shows that the specification's septet packing with zero fill bits IS the library's packing whenever the
library adds no CR filler, and C08's round-trip theorem gives the decoding.  Septet counts 4..7 are the known finding
C19-alnum-length (the witness `C19_cex_alnum` below); a text ending in CR with a multiple of eight septets is C08's documented
ambiguity. -/

/-- **alphanumeric address, encoding**: what Address.WriteTo writes for such a text is the specification's field
(Address-Length = useful semi-octets, TON 101, septets packed with zero fill bits) -/
theorem C19_address_alnum_encode (npi : Nat) (t s : List Nat) (hnpi : npi < 16) (h : AlnumAddr t s) :
    writeAddr gsmReverse gsmEscapes ⟨UInt8.ofNat npi, 5, t⟩ = addressField ⟨5, npi, .alpha s⟩ := by
  obtain ⟨henc, hlen, _, hne⟩ := alnum_encode_pack t s h
  have hemp : t.isEmpty = false := List.isEmpty_eq_false_iff.mpr hne
  have hk : ((UInt8.ofNat npi &&& (0x0F : UInt8)) ||| (((5 : UInt8) &&& (0x07 : UInt8)) <<< (4 : UInt8)) ||| (0x80 : UInt8)) = toa 5 npi :=
    (toa_bits ⟨5, by omega⟩ ⟨npi, hnpi⟩).2.2
  have hL : ∀ n ∈ [1, 2, 3, 8, 9, 10, 11], UInt8.ofNat ((7 * n + 7) / 8) * 2 = UInt8.ofNat ((7 * n + 3) / 4) := by decide
  simp only [writeAddr, addrBinary, addressField, hemp, Bool.false_eq_true, ↓reduceIte, ne_eq, not_true_eq_false, henc,
    Option.getD_some, hlen, packSeptets_eq_pack s h.mod8, hk, hL _ h.len]

open Smpp.Gsm7 in
/-- **alphanumeric address, decoding**: the TP-OA / TP-DA field the specification lays out for such a text decodes to
exactly that text with TON 101 and the plan — unless the text ends in CR with a multiple of eight septets, where the
library's filler rule (C08) takes the CR for padding -/
theorem C19_address_alnum_decode (npi : Nat) (t s : List Nat) (rest : Bytes) (hnpi : npi < 16) (h : AlnumAddr t s)
    (hcr : ¬ (s.length % 8 = 0 ∧ t.getLast? = some 13)) :
    readAddr gsmReverse gsmEscapes (addressField ⟨5, npi, .alpha s⟩ ++ rest) = .ok (⟨UInt8.ofNat npi, 5, t⟩, rest) := by
  obtain ⟨henc, hlen, _, _⟩ := alnum_encode_pack t s h
  obtain ⟨hb1, hb2, _⟩ := toa_bits ⟨5, by omega⟩ ⟨npi, hnpi⟩
  obtain ⟨hhalf, hl0⟩ := alnum_halflen s.length h.len
  have hdec : decode gsmReverse gsmEscapes (pack s) = some t := by
    rcases decode_encode Smpp.Gsm7.tables_ok t (pack s) henc with hd | ⟨s', hs', h0, hlast, _⟩
    · exact hd
    · have : s' = s := Option.some.inj (hs' ▸ h.septets)
      exact absurd ⟨this ▸ h0, hlast⟩ hcr
  have hno : decodeNo gsmReverse gsmEscapes 5 (pack s) = .ok t := by simp [decodeNo, hdec]
  simp only [addressField, packSeptets_eq_pack s h.mod8]
  exact readAddr_cons hl0 (hhalf.trans hlen.symm) hb1 hb2 hno

/-- non-vacuity: "Café Sol" — eight septets, one of them a national character whose septet differs from its code point -/
example : AlnumAddr [67, 97, 102, 233, 32, 83, 111, 108] [67, 97, 102, 5, 32, 83, 111, 108] := ⟨by decide +kernel, by decide⟩

/-! ## user data -/

/-- **user data**: UDL octets followed by that many octets decode to exactly those octets, and are written back
unchanged unless they end in 0x00 (known finding C19-ud-zero) -/
theorem C19_user_data (ud rest : Bytes) (hlen : ud.length ≤ 255) (hne : ud ≠ []) (hlast : ud.getLast? ≠ some 0) (e : Env) (f : TField)
    (hu : f.ukind = .bytes) (hm : f.mkind = .bytes) (st : WalkState) :
    stepField e.rev e.escs e.flagLayouts f st (UInt8.ofNat ud.length :: ud ++ rest) = .ok (.bytes ud, rest, st) ∧
    marshalField e 0 f (.bytes ud) = .ok (UInt8.ofNat ud.length :: ud) := by
  obtain ⟨n, tp, dir, uk, mk⟩ := f
  subst hu hm
  have h := FieldAgrees.bytes (e := e) (vpf := 0) (n := n) (tp := tp) (dir := dir) (st := st) ud hlen hlast
  exact ⟨h.read rest, h.write⟩

/-! ## whole TPDUs: decode to the values laid out, re-encode octet for octet

`deliver_agrees` / `submit_agrees` hold for ANY environment that has the regenerated layout and flag struct and for WHATEVER
address and time-stamp values the field codecs agree on with the specification; `C19_deliver` / `C19_submit` put in numeric
addresses of 1..20 digits and a valid time stamp with a non-negative zone.  User data of 0..255 octets not ending in 0x00,
SMS-DELIVER first octets below 0x40, SMS-SUBMIT with EVERY first octet and validity period absent / relative (all 256 values)
/ absolute.  Enhanced validity periods inside whole TPDUs are checked differentially only. -/

theorem deliver_flag_kinds : flagKinds flagLayouts "DeliverFlags" = [.mtype, .one, .one, .one, .one] := by decide +kernel

/-- a numeric address of the property's domain -/
structure NumAddr (a : Address) (ds : List Nat) : Prop where
  val : a.value = .digits ds
  ton : a.ton < 8 ∧ a.ton ≠ 5
  npi : a.npi < 16
  digits : ∀ d ∈ ds, d ≤ 9
  len : 1 ≤ ds.length ∧ ds.length ≤ 20

def addrVal (a : Address) (ds : List Nat) : Addr := ⟨UInt8.ofNat a.npi, UInt8.ofNat a.ton, ds.map (· + 48)⟩

theorem NumAddr.codec {a : Address} {ds : List Nat} (h : NumAddr a ds) (rev escs) :
    Codec (readAddr rev escs) (writeAddr rev escs) (addressField a) (addrVal a ds) :=
  numAddr_codec rev escs h.val h.ton h.npi h.digits ⟨h.len.1, by have := h.len.2; omega⟩

/-- the domain on which today's code is right for SMS-DELIVER with numeric addresses (the known findings excluded) -/
structure DeliverOK (d : Deliver) (scd oad : List Nat) : Prop where
  sc : NumAddr d.sc scd
  oa : NumAddr d.oa oad
  fo : d.firstOctet < 64
  pid : d.pid < 256
  dcs : d.dcs < 256
  year : d.scts.year < 100
  zone : 0 ≤ d.scts.zone ∧ d.scts.zone < 100
  civil : ValidCivil (2000 + d.scts.year) d.scts.month d.scts.day d.scts.hour d.scts.minute d.scts.second 0
  udl : d.udl = d.ud.length ∧ d.ud.length ≤ 255
  udLast : d.ud.getLast? ≠ some 0

def deliverValue (d : Deliver) (scd oad : List Nat) : Tpdu :=
  ⟨"Deliver", [.addr (addrVal d.sc scd),
    .flags (setDirection 0 deliverKinds (unmarshalFlags (UInt8.ofNat (d.firstOctet / 4 * 4)) deliverKinds 0)),
    .addr (addrVal d.oa oad), .byte (UInt8.ofNat d.pid), .byte (UInt8.ofNat d.dcs),
    .time ⟨(2000 + d.scts.year : Nat), d.scts.month, d.scts.day, d.scts.hour, d.scts.minute, d.scts.second, 0, d.scts.zone * 900⟩,
    .bytes d.ud]⟩

/-- **SMS-DELIVER** behind its SC address, for whatever SC address, originating address and time stamp the field codecs agree on -/
theorem deliver_agrees (e : Env) (hlay : e.layouts.find? (·.name == "Deliver") = some ⟨"Deliver", dFields⟩)
    (hfl : flagKinds e.flagLayouts "DeliverFlags" = deliverKinds) (d : Deliver) (sc oa : Addr) (ts : GoDate)
    (hsc : Codec (readSCAddr e.rev e.escs) (writeSCAddr e.rev e.escs) (scAddressField (some d.sc)) sc)
    (hshape : ScShape (scAddressField (some d.sc)))
    (hoa : Codec (readAddr e.rev e.escs) (writeAddr e.rev e.escs) (addressField d.oa) oa)
    (hts : Codec readTime writeTime (timeStampField d.scts) ts)
    (hfo : d.firstOctet < 64) (hudl : d.udl = d.ud.length ∧ d.ud.length ≤ 255) (hlast : d.ud.getLast? ≠ some 0) :
    let p : Tpdu := ⟨"Deliver", [.addr sc,
      .flags (setDirection 0 deliverKinds (unmarshalFlags (UInt8.ofNat (d.firstOctet / 4 * 4)) deliverKinds 0)),
      .addr oa, .byte (UInt8.ofNat d.pid), .byte (UInt8.ofNat d.dcs), .time ts, .bytes d.ud]⟩
    unmarshal e (deliver d) = .ok p ∧ marshal e p = .ok (deliver d) := by
  obtain ⟨l, body, hscf, hl, hpos⟩ := hshape
  obtain ⟨x, t, hoaf⟩ := addressField_eq_cons d.oa
  have hgt : getType (deliver d) = .ok (0, x.toNat > 127) := by
    have h4 : (UInt8.ofNat (d.firstOctet / 4 * 4)).toNat % 4 = 0 := by rw [u8_ofNat_toNat (by omega)]; omega
    simp only [deliver, hscf, hoaf, List.append_assoc, List.cons_append, List.nil_append]
    rw [getType_sc hl hpos, h4]
  have hrt := C19_deliver_first_octet_partial ⟨d.firstOctet / 4 * 4, by omega⟩
  refine unmarshal_marshal hgt rfl hlay ?_
  simpa only [deliver, dFields, hudl.1, List.append_assoc, List.cons_append, List.nil_append, List.append_nil] using
    Agrees.cons (.scaddr hsc) <| .cons (.flagsMT hfl (by decide) (by decide) _ hrt) <| .cons (.addr hoa) <|
      .cons (.byte _) <| .cons (.byte _) <| .cons (.time hts) <| .cons (.bytes d.ud hudl.2 hlast) .nil

/-- **SMS-DELIVER**: decodes to the values laid out and re-encodes octet for octet (domain `DeliverOK`) -/
theorem C19_deliver (d : Deliver) (scd oad : List Nat) (h : DeliverOK d scd oad) :
    unmarshal env (deliver d) = .ok (deliverValue d scd oad) ∧ marshal env (deliverValue d scd oad) = .ok (deliver d) :=
  have hsc := scAddr_codec env.rev env.escs h.sc.val h.sc.ton h.sc.npi h.sc.digits ⟨h.sc.len.1, by have := h.sc.len.2; omega⟩
  deliver_agrees env deliver_fields rfl d _ _ _ hsc.1 hsc.2 (h.oa.codec _ _) (timestamp_codec _ h.year h.zone h.civil) h.fo h.udl
    h.udLast

/-! ### SMS-SUBMIT (no SC address) -/

/-- the validity periods of the domain and the values they decode to -/
inductive VpOK : Validity → VP → Prop where
  | absent : VpOK .absent .none
  | relative (n : Nat) : n < 256 → VpOK (.relative n) (.rel (relToSecs n))
  | absolute (t : TimeStamp) (q : Nat) : t.year < 100 → t.zone = (q : Int) → q < 100 →
      ValidCivil (2000 + t.year) t.month t.day t.hour t.minute t.second 0 →
      VpOK (.absolute t) (.abs ⟨(2000 + t.year : Nat), t.month, t.day, t.hour, t.minute, t.second, 0, t.zone * 900⟩)

structure SubmitOK (s : Submit) (dad : List Nat) (v : VP) : Prop where
  da : NumAddr s.da dad
  fo : s.firstOctet < 256
  mr : s.mr < 256
  pid : s.pid < 256
  dcs : s.dcs < 256
  vp : VpOK s.vp v
  udl : s.udl = s.ud.length ∧ s.ud.length ≤ 255
  udLast : s.ud.getLast? ≠ some 0

def submitValue (s : Submit) (dad : List Nat) (v : VP) : Tpdu :=
  ⟨"Submit", [.addr Addr.zero,
    .flags (setDirection 1 submitKinds (unmarshalFlags (UInt8.ofNat (submitFirstOctet s)) submitKinds 0)),
    .byte (UInt8.ofNat s.mr), .addr (addrVal s.da dad), .byte (UInt8.ofNat s.pid), .byte (UInt8.ofNat s.dcs),
    .vp v, .bytes s.ud]⟩

/-- one iteration of the loop of `unmarshal` while no parameter indicator has been seen -/
theorem uf_cons (rev escs fl) (f : TField) (fs : List TField) (st : WalkState) (bs : Bytes) (hpi : st.pi = none) :
    unmarshalFields rev escs fl (f :: fs) st bs =
      (match stepField rev escs fl f st bs with
       | .err e => .err e
       | .panic s => .panic s
       | .ok (v, bs', st') =>
         match unmarshalFields rev escs fl fs st' bs' with
         | .ok vs => .ok (v :: vs)
         | .err e => .err e
         | .panic s => .panic s) := by
  simp only [unmarshalFields, hpi, Option.isSome_none, Bool.false_and, Bool.false_eq_true]
  cases stepField rev escs fl f st bs <;> rfl

theorem uf_cons' (rev escs fl) (f : TField) (fs : List TField) (st : WalkState) (bs : Bytes) (hpi : st.pi = none) :
    unmarshalFields rev escs fl (f :: fs) st bs =
      (match stepField rev escs fl f st bs with
       | .err e => .err e
       | .panic s => .panic s
       | .ok (v, bs', st') =>
         match unmarshalFields rev escs fl fs st' bs' with
         | .ok vs => .ok (v :: vs)
         | .err e => .err e
         | .panic s => .panic s) := uf_cons rev escs fl f fs st bs hpi

/-- the validity-period field, read in the walk state of its format and written back, for each period of the domain -/
theorem VpOK.field {e : Env} {vpf : Nat} {n dir : String} {st : WalkState} {vp : Validity} {v : VP} (h : VpOK vp v)
    (hst : st.vpf = vp.format) : FieldAgrees e vpf ⟨n, "VP", dir, .iface, .iface⟩ st st (validityField vp) (.vp v) := by
  cases h with
  | absent => exact .vpNone hst
  | relative k hk => exact .vpRel hst k hk (C19_relative ⟨k, hk⟩).2
  | absolute t q hy hz hq hc => exact .vpAbs hst (timestamp_codec t hy (by omega) hc)

/-- the format Marshal's first loop derives from the dynamic type of the value -/
theorem VpOK.vpfOf {vp : Validity} {v : VP} (h : VpOK vp v) (ud : Bytes) : vpfOf [.vp v, .bytes ud] = vp.format := by
  cases h <;> rfl

/-- **SMS-SUBMIT** without SC address, for whatever destination address the field codec agrees on -/
theorem submit_agrees (e : Env) (hlay : e.layouts.find? (·.name == "Submit") = some ⟨"Submit", sFields⟩)
    (hfl : flagKinds e.flagLayouts "SubmitFlags" = submitKinds) (s : Submit) (da : Addr) (v : VP)
    (hda : Codec (readAddr e.rev e.escs) (writeAddr e.rev e.escs) (addressField s.da) da)
    (hfo : s.firstOctet < 256) (hvp : VpOK s.vp v) (hudl : s.udl = s.ud.length ∧ s.ud.length ≤ 255) (hlast : s.ud.getLast? ≠ some 0) :
    let p : Tpdu := ⟨"Submit", [.addr Addr.zero,
      .flags (setDirection 1 submitKinds (unmarshalFlags (UInt8.ofNat (submitFirstOctet s)) submitKinds 0)),
      .byte (UInt8.ofNat s.mr), .addr da, .byte (UInt8.ofNat s.pid), .byte (UInt8.ofNat s.dcs), .vp v, .bytes s.ud]⟩
    unmarshal e (submit s) = .ok p ∧ marshal e p = .ok (submit s) := by
  intro p
  -- the first octet the specification builds: below 256, message type 01, the period's format in bits 4..3
  obtain ⟨hlt, hm4, hfmt⟩ : submitFirstOctet s < 256 ∧ submitFirstOctet s % 4 = 1 ∧ submitFirstOctet s / 8 % 4 = s.vp.format := by
    have : s.vp.format < 4 := by cases s.vp <;> simp [Validity.format]
    unfold submitFirstOctet; omega
  have hgt : getType (submit s) = .ok (3, (UInt8.ofNat s.mr).toNat > 127) := by
    simp only [submit, scAddressField, List.cons_append, List.nil_append]
    rw [getType_nosc, u8_ofNat_toNat (by omega), hm4]
  -- the format the walk keeps is the one the first octet carries, and Marshal writes that octet back
  have hget : (setDirection 1 submitKinds (unmarshalFlags (UInt8.ofNat (submitFirstOctet s)) submitKinds 0)).getD 2 0 = s.vp.format := by
    rw [setDirection_getD_succ, C19_submit_vpf ⟨submitFirstOctet s, hlt⟩, hfmt]
  have hrt := C19_submit_first_octet ⟨submitFirstOctet s, hlt⟩
  simp only [hget] at hrt
  refine unmarshal_marshal hgt rfl hlay ?_
  rw [show vpfOf p.vals = s.vp.format from hvp.vpfOf s.ud]
  simpa only [submit, sFields, scAddressField, hudl.1, List.append_assoc, List.cons_append, List.nil_append, List.append_nil] using
    Agrees.cons (.scaddr (noSC_codec ..)) <| .cons (.flagsSubmit hfl _ rfl hrt) <| .cons (.byte _) <|
      .cons (.addr hda) <| .cons (.byte _) <| .cons (.byte _) <| .cons (hvp.field hget) <|
      .cons (.bytes s.ud hudl.2 hlast) .nil

/-- **SMS-SUBMIT**: the same (domain `SubmitOK`) -/
theorem C19_submit (s : Submit) (dad : List Nat) (v : VP) (h : SubmitOK s dad v) :
    unmarshal env (submit s) = .ok (submitValue s dad v) ∧ marshal env (submitValue s dad v) = .ok (submit s) :=
  submit_agrees env submit_fields rfl s _ v (h.da.codec _ _) h.fo h.vp h.udl h.udLast

/-! ## the full statement (NOT a theorem here) and its refuted classes -/

/-- the first octet of a DELIVER the code can reproduce, etc.: the sub-domain on which no known finding applies -/
def DeliverInDomain (d : Deliver) : Prop :=
  d.firstOctet < 64 ∧ d.scts.zone ≥ 0 ∧ d.udl = d.ud.length ∧ d.ud.getLast? ≠ some 0 ∧
  (match d.oa.value with | .alpha ss => ss.length < 4 ∨ 7 < ss.length | .digits _ => True)

/-- full-strength statement for SMS-DELIVER: what the property demands of every well-formed TPDU.  Proved above field by
field; composed only differentially (op smsd); false outside `DeliverInDomain` (witnesses below). -/
def C19_full_deliver : Prop :=
  ∀ d : Deliver, ∀ p, unmarshal env (deliver d) = .ok p → marshal env p = .ok (deliver d)

def bytesOf (r : R Tpdu) : R Bytes :=
  match r with
  | .ok p => marshal env p
  | .err e => .err e
  | .panic s => .panic s

def sampleAddr : Address := ⟨1, 1, .digits [6, 1, 4, 0, 9, 8, 6, 5, 6, 2, 9]⟩
def sampleTime : TimeStamp := ⟨17, 8, 31, 11, 21, 54, 32⟩
def sampleDeliver : Deliver := ⟨sampleAddr, 4, sampleAddr, 0, 4, sampleTime, 2, [0x41, 0x42]⟩

/-- KNOWN FINDING C19-deliver-first-octet: TP-UDHI (bit 6) is dropped -/
theorem C19_cex_deliver_first_octet :
    bytesOf (unmarshal env (deliver { sampleDeliver with firstOctet := 0x44 })) ≠ .ok (deliver { sampleDeliver with firstOctet := 0x44 }) := by
  decide +kernel

/-- KNOWN FINDING C19-ud-zero: user data ending in 0x00 loses that octet -/
theorem C19_cex_ud_zero :
    bytesOf (unmarshal env (deliver { sampleDeliver with ud := [0x41, 0x00] })) ≠ .ok (deliver { sampleDeliver with ud := [0x41, 0x00] }) := by
  decide +kernel

/-- KNOWN FINDING C19-alnum-length: a four-character alphanumeric address is re-encoded with length 8 instead of 7 -/
theorem C19_cex_alnum :
    bytesOf (unmarshal env (deliver { sampleDeliver with oa := ⟨5, 0, .alpha [65, 66, 67, 68]⟩ }))
      ≠ .ok (deliver { sampleDeliver with oa := ⟨5, 0, .alpha [65, 66, 67, 68]⟩ }) := by
  decide +kernel

/-- KNOWN FINDING C19-negative-zone: zone −10 quarter hours decodes as +90 (offset 81000 s instead of −9000 s) -/
theorem C19_cex_negative_zone :
    (readTime (timeStampField { sampleTime with zone := -10 })).isOk = true ∧
    readTime (timeStampField { sampleTime with zone := -10 }) ≠ .ok (⟨2017, 8, 31, 11, 21, 54, 0, -9000⟩, []) := by
  decide +kernel

/-! ## non-vacuity -/

/-- a whole specification-built SMS-DELIVER goes through the model unchanged -/
example : bytesOf (unmarshal env (deliver sampleDeliver)) = .ok (deliver sampleDeliver) := by decide +kernel

/-- and an SMS-SUBMIT with an absolute validity period, 20 digits with leading zeros -/
example : (let s : Submit := ⟨0xA5, 7, ⟨0, 1, .digits [0, 0, 1, 2, 3, 4, 5, 6, 7, 8, 9, 0, 1, 2, 3, 4, 5, 6, 7, 8]⟩, 0, 8, .absolute sampleTime, 4, [0, 0x41, 0, 0x42]⟩
    bytesOf (unmarshal env (submit s)) = .ok (submit s)) := by decide +kernel

example : ValidCivil (2000 + 17) 8 31 11 21 54 0 := ⟨by decide, by decide, by decide, by decide, by decide, by decide, by decide⟩

/-- non-vacuity of the domain of `C19_deliver` -/
example : DeliverOK sampleDeliver [6, 1, 4, 0, 9, 8, 6, 5, 6, 2, 9] [6, 1, 4, 0, 9, 8, 6, 5, 6, 2, 9] := by
  refine ⟨⟨rfl, by decide, by decide, by decide, by decide⟩, ⟨rfl, by decide, by decide, by decide, by decide⟩, by decide, by decide,
    by decide, by decide, by decide, ⟨by decide, by decide, by decide, by decide, by decide, by decide, by decide⟩, by decide, by decide⟩

/-- and of `C19_submit`: 20 digits with leading zeros, relative validity 144 (12 h 30 min) -/
example : SubmitOK ⟨0xA5, 7, ⟨0, 1, .digits [0, 0, 1, 2, 3, 4, 5, 6, 7, 8, 9, 0, 1, 2, 3, 4, 5, 6, 7, 8]⟩, 0, 8, .relative 144, 4, [0, 0x41, 0, 0x42]⟩
    [0, 0, 1, 2, 3, 4, 5, 6, 7, 8, 9, 0, 1, 2, 3, 4, 5, 6, 7, 8] (.rel (relToSecs 144)) := by
  refine ⟨⟨rfl, by decide, by decide, by decide, by decide⟩, by decide, by decide, by decide, by decide, VpOK.relative 144 (by decide), by decide, by decide⟩

end Smpp.Properties.C19

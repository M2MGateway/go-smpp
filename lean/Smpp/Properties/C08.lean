/-
C08 — GSM 7-bit packed codec: exact alphabet, exact packing, lossless round trip.
-/
import Smpp.Properties.SrcGsm7
import Smpp.Proofs.Gsm7Text
import Smpp.Spec.Gsm0338
import Smpp.Proofs.Lits
import Smpp.Proofs.Bitmap

namespace Smpp.Properties.C08
open Smpp.Gsm7 Smpp.Generated

abbrev enc := encode gsmReverse gsmEscapes
abbrev dec := decode gsmReverse gsmEscapes
abbrev septets := toSeptets gsmReverse gsmEscapes
abbrev acc := accepts gsmReverse gsmEscapes

/-! ## expectations on the regenerated tables and statements -/

theorem table_size : gsmReverse.length = 128 := by decide +kernel

/-- the escape septets are pairwise distinct (so the derived inverse map does not depend on Go's
map iteration order) and so are the escaped runes -/
theorem escapes_distinct : (gsmEscapes.map (·.2)).Nodup ∧ (gsmEscapes.map (·.1)).Nodup := by decide +kernel

theorem consts_source : gsmConsts = ["esc, cr byte = 0x1B, 0x0D"] := rfl

theorem init_source : gsmInitStmts = [
  "init: for index, r := range reverseLookup[:0x80] { if byte(index) != esc { forwardLookup[r] = byte(index) } }",
  "init: for r, b := range forwardEscapes { reverseEscapes[b] = r }"] := rfl

/-- index expressions of encoder.go / decoder.go: `dst[index]` stays below nDst ≤ len(dst)
(pack_length: the packer fills exactly ⌈7n/8⌉ octets and the filler never needs another);
`forwardLookup[r]`, `forwardEscapes[r]`, `reverseEscapes[..]` are map lookups;
`reverseLookup[septet]` indexes a [256]rune with a byte; `septets[i]` is guarded by the loop
condition / the `i >= len` test; `septets[n-1]` by n%8 == 0 with n ≥ 1 (src non-empty). -/
theorem panic_sites_inventory : gsmPanicSites = [
  ("coding/gsm7bit/decoder.go|gsm7Decoder.Transform|index", 5),
  ("coding/gsm7bit/encoder.go|packSeptets|index", 1),
  ("coding/gsm7bit/encoder.go|toSeptets|index", 2)] := rfl

/-- the packing statements the model transcribes -/
theorem codec_source_pack :
    gsmCodecStmts.filter (fun s => s.startsWith "packSeptets" || s.startsWith "unpackSeptets" || s.startsWith "blocks") = [
  "packSeptets: var index int",
  "packSeptets: var bit byte",
  "packSeptets: pack := func(c byte) { for i := 0; i < 7; i++ { dst[index] |= c >> i & 1 << bit bit++ if bit == 8 { index++ bit = 0 } } }",
  "packSeptets: for _, c := range septets { pack(c) }",
  "packSeptets: if 8-bit == 7 { pack(cr) }",
  "blocks: length = n / 8",
  "blocks: if n%8 != 0 { length += 1 }",
  "blocks: return",
  "unpackSeptets: var septet, bit byte = 0, 0",
  "unpackSeptets: var buf bytes.Buffer",
  "unpackSeptets: buf.Grow(len(septets))",
  "unpackSeptets: for _, octet := range septets { for i := 0; i < 8; i++ { septet |= octet >> i & 1 << bit bit++ if bit == 7 { buf.WriteByte(septet) septet = 0 bit = 0 } } }",
  "unpackSeptets: return buf.Bytes()"] :=
  Lits.filter (fun l => congrArg₂ or (congrArg₂ or (startsWith_ofList l _) (startsWith_ofList l _)) (startsWith_ofList l _))
    (by repeat constructor) (by repeat constructor) (by decide +kernel)

/-- the decoder's strip rule as repaired (only a filler CR: multiple of eight septets, last = CR) -/
theorem codec_source_strip :
    gsmCodecStmts.filter (fun s => s.startsWith "gsm7Decoder.Transform: if len(dst)") = [
  "gsm7Decoder.Transform: if len(dst) < nDst { nDst = 0 err = transform.ErrShortDst } else { decoded := buf.Bytes() if n := len(septets); n%8 == 0 && septets[n-1] == cr { nDst-- } copy(dst, decoded) }"] :=
  Lits.filter (startsWith_ofList · _) (by repeat constructor) (by repeat constructor) (by decide +kernel)

/-! ## alphabet: decided for EVERY natural number, not a sample

The encoder's repertoire (`accepts_iff_mem`), the standard's and the detector's ranges are three
finite sets of scalar values; they are compared as bitmaps (Proofs/Bitmap). -/

/-- the members of the detector's ranges (every stride taken as 1, then filtered) -/
def rangeMembers : List Nat :=
  (gsmAlphabetRanges.flatMap fun (lo, hi, _) => (List.range (hi - lo + 1)).map (· + lo)).filter
    (inRanges gsmAlphabetRanges)

theorem alphabet_sets :
    Bitmap.ofList (acceptedList gsmReverse gsmEscapes) = Bitmap.ofList Spec.Gsm0338.repertoire ∧
    Bitmap.ofList rangeMembers = Bitmap.ofList (acceptedList gsmReverse gsmEscapes) := by decide +kernel

theorem repertoire_size : Spec.Gsm0338.repertoire.length = 137 ∧ Spec.Gsm0338.repertoire.Nodup :=
  ⟨by decide +kernel, Bitmap.nodup_of_fresh (by decide +kernel)⟩

/-- **C08 alphabet.**  The encoder accepts a scalar value iff it is one of the 137 characters of
GSM 03.38 (default alphabet + extension table) — for all scalar values at once. -/
theorem C08_alphabet (r : Nat) : acc r = true ↔ r ∈ Spec.Gsm0338.repertoire :=
  accepts_iff_mem.trans (Bitmap.mem_iff_of_ofList_eq alphabet_sets.1 r)

/-- position by position, the regenerated table is the standard's default alphabet (no character at ESC) -/
theorem default_positions : Spec.Gsm0338.defaultAlphabet.zipIdx =
    (gsmReverse.take 128).zipIdx.map fun p => (if p.2 = esc then none else some p.1, p.2) := by decide +kernel

/-- so the forward table looks a rune up where the standard does (it holds no rune twice: the last position is the first) -/
theorem forward_is_default (r : Nat) :
    forwardOf gsmReverse r = (Spec.Gsm0338.defaultAlphabet.zipIdx.find? fun p => p.1 == some r).map (·.2) := by
  rw [forwardOf_eq_find? (Bitmap.nodup_of_fresh (by decide +kernel)), default_positions, List.find?_map, Option.map_map]
  congr 2
  funext p
  by_cases h : p.2 = esc <;> simp [h]

/-- the escape table holds the ten pairs of the standard's extension table, in another order -/
theorem escape_is_extension (r : Nat) :
    escapeOf gsmEscapes r = (Spec.Gsm0338.extension.find? (·.1 == r)).map (·.2) := by
  by_cases h : r ∈ Spec.Gsm0338.extension.map (·.1) ++ gsmEscapes.map (·.1)
  · -- on the keys of either list the two lookups agree
    have : (Spec.Gsm0338.extension.map (·.1) ++ gsmEscapes.map (·.1)).all
        (fun r => escapeOf gsmEscapes r == (Spec.Gsm0338.extension.find? (·.1 == r)).map (·.2)) = true := by decide +kernel
    exact beq_iff_eq.mp (List.all_eq_true.mp this r h)
  · -- any other number is a key of neither
    simp only [List.mem_append, List.mem_map, not_or, not_exists, not_and] at h
    rw [escapeOf, List.find?_eq_none.mpr fun p hp => by simpa using h.2 p hp,
      List.find?_eq_none.mpr fun p hp => by simpa using h.1 p hp]

/-- the model's septets of one rune are the standard's, for every number (outside the repertoire neither has any) -/
theorem septets_eq_spec (r : Nat) : septets [r] = Spec.Gsm0338.septetsOf r := by
  unfold septets Spec.Gsm0338.septetsOf
  rw [toSeptets, forward_is_default, escape_is_extension]
  cases (Spec.Gsm0338.defaultAlphabet.zipIdx.find? fun p => p.1 == some r).map (·.2) with
  | some i => rfl
  | none => cases Spec.Gsm0338.extension.find? (·.1 == r) <;> rfl

/-- … and encodes each of them with exactly the septet(s) the standard assigns. -/
theorem C08_septets (r : Nat) (h : r ∈ Spec.Gsm0338.repertoire) : septets [r] = Spec.Gsm0338.septetsOf r :=
  septets_eq_spec r

/-- a text is accepted iff each of its characters is; any other character gives an error, never a substitute -/
theorem C08_text_accepted (t : List Nat) : (septets t).isSome = t.all acc := by
  induction t with
  | nil => rfl
  | cons r t ih =>
    rw [septets, toSeptets_cons, List.all_cons, ← ih, acc, accepts_eq_isSome]
    cases runeSeptets gsmReverse gsmEscapes r <;> simp

/-- **C08 detector.**  DefaultAlphabet (what Validate and BestCoding test) describes exactly the
encoder's repertoire, for every scalar value. -/
theorem C08_detector (r : Nat) : inRanges gsmAlphabetRanges r = acc r := by
  have hm : inRanges gsmAlphabetRanges r = true ↔ r ∈ rangeMembers := by
    refine ⟨fun hin => List.mem_filter.mpr ⟨?_, hin⟩, fun h => (List.mem_filter.mp h).2⟩
    unfold inRanges at hin
    simp only [List.any_eq_true, Bool.and_eq_true, decide_eq_true_eq] at hin
    obtain ⟨⟨lo, hi, st⟩, hmem, ⟨hlo, hhi⟩, _⟩ := hin
    simp only [List.mem_flatMap, List.mem_map, List.mem_range]
    exact ⟨(lo, hi, st), hmem, r - lo, by omega, by omega⟩
  exact Bool.eq_iff_iff.mpr
    ((hm.trans (Bitmap.mem_iff_of_ofList_eq alphabet_sets.2 r)).trans accepts_iff_mem.symm)

/-- **C08 length.**  ⌈7n/8⌉ octets, n counting extension characters twice. -/
theorem C08_length (t s : List Nat) (b : List UInt8) (hs : septets t = some s) (ht : t ≠ [])
    (he : enc t = some b) : b.length = (7 * s.length + 7) / 8 := by
  unfold enc encode at he
  rw [if_neg (by simpa using ht), show toSeptets gsmReverse gsmEscapes t = some s from hs] at he
  cases he
  exact pack_length s

/-- **C08 filler.**  A CR filler septet is packed exactly when seven bits would be spare
(n ≡ 7 mod 8); otherwise the spare bits are zero. -/
theorem C08_filler (s : List Nat) :
    (pack s).flatMap (fun o => bitsLE 8 o.toNat)
      = s.flatMap (bitsLE 7) ++
        (if s.length % 8 = 7 then bitsLE 7 cr else List.replicate ((8 - 7 * s.length % 8) % 8) false) := by
  rw [pack_stream]
  unfold stream withFiller
  split
  · simp only [List.flatMap_append, List.length_append, flatMap_bits_length]
    have : (8 - (7 * s.length + 7) % 8) % 8 = 0 := by omega
    simp [this]
  · simp only [flatMap_bits_length]

/-- **C08 bits.**  Septet i is stored least-significant-bit first at bit offset 7i. -/
theorem C08_bits (s : List Nat) (i j : Nat) (hi : i < s.length) (hj : j < 7) :
    ((pack s).flatMap (fun o => bitsLE 8 o.toNat))[7 * i + j]? = some ((s[i]! / 2 ^ j) % 2 == 1) := by
  rw [C08_filler]
  exact stream_bit s _ i j hi hj

/-- **C08 round trip.**  Decoding the encoder's output returns the original text, except when the
text has a multiple of eight septets and ends in CR: then exactly that one trailing CR is lost. -/
theorem C08_roundtrip (t : List Nat) (b : List UInt8) (he : enc t = some b) :
    dec b = some t ∨
    (∃ s, septets t = some s ∧ s.length % 8 = 0 ∧ t.getLast? = some 13 ∧ dec b = some t.dropLast) :=
  decode_encode tables_ok t b he

/-! ## non-vacuity -/
example : enc [49, 50, 51, 52, 53, 54, 55] = some [0x31, 0xD9, 0x8C, 0x56, 0xB3, 0xDD, 0x1A] := by decide +kernel
example : dec [0x31, 0xD9, 0x8C, 0x56, 0xB3, 0xDD, 0x1A] = some [49, 50, 51, 52, 53, 54, 55] := by decide +kernel
example : septets [0x20AC, 91] = some [0x1B, 0x65, 0x1B, 0x3C] ∧ acc 0xA0 = false ∧ acc 0 = false := by decide +kernel

end Smpp.Properties.C08

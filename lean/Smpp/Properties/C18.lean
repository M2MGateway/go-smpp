/-
C18 — SMS TPDU decoding is total on arbitrary octets.

`sms.Unmarshal` on every octet string returns an error or one of the eight TPDU structures and never
panics; `sms.Marshal` of anything it returned never panics either.  The model (Smpp/Model/Sms.lean)
makes every index expression and the one computed `make` length of the Go code an explicit partial
operation with a `panic` outcome; the theorems show that outcome unreachable for EVERY input.
-/
import Smpp.Proofs.SmsTotal
import Smpp.Properties.SmsSource
import Smpp.Generated.Gsm7Facts

namespace Smpp.Properties.C18
open Smpp.Sms Smpp.Generated

/-- the environment the theorems are instantiated with: regenerated layouts and GSM 7-bit tables -/
def env : Env := ⟨gsmReverse, gsmEscapes, tpduLayouts, flagLayouts⟩

/-! ## expectations on regenerated facts (what the model's shape relies on) -/

/-- the eight structures Unmarshal's switch allocates all have a regenerated layout -/
theorem layouts_cover_switch :
    tpduLayouts.map (·.name) = ["Deliver", "DeliverReport", "DeliverReportError", "Submit", "SubmitReport",
      "SubmitReportError", "StatusReport", "Command"] := rfl

/-- no field is dispatched to a reader/writer the model does not have -/
theorem kinds_modelled : tpduLayouts.all (fun L => L.fields.all fun f =>
    (match f.ukind with | .flags ty => flagLayouts.any (·.1 == ty) | _ => true) &&
    (match f.mkind with | .flags ty => flagLayouts.any (·.1 == ty) | _ => true)) = true := by decide +kernel

/-- decoder and encoder dispatch agree on every field (a field read is a field written) -/
theorem kinds_symmetric : tpduLayouts.all (fun L => L.fields.all fun f => f.ukind == f.mkind) = true := by
  decide +kernel

/-- the flag structs: field kinds, and the position of ValidityPeriodFormat the walk reads and rewrites -/
theorem flag_structs : flagLayouts = [
    ("DeliverFlags", [.mtype, .one, .one, .one, .one]),
    ("Flags", [.mtype]),
    ("ParameterIndicator", [.one, .one, .one]),
    ("SubmitFlags", [.mtype, .one, .two, .one, .one, .one])] ∧
    (flagFieldNames.find? (·.1 == "SubmitFlags")).map (·.2[2]?) = some (some "ValidityPeriodFormat") ∧
    (flagFieldNames.find? (·.1 == "ParameterIndicator")).map (·.2) = some ["ProtocolIdentifier", "DataCoding", "UserData"] := by
  decide +kernel

/-! ## the property -/

/-- **Unmarshal never panics**, for every octet string (and any layout table). -/
theorem C18_unmarshal_total (e : Env) (bs : Bytes) : (unmarshal e bs).isPanic = false :=
  (unmarshal_safe e bs).isPanic_eq_false

/-- **error or one of the eight structures** -/
theorem C18_classify (bs : Bytes) (p : Tpdu) (h : unmarshal env bs = .ok p) :
    p.name ∈ ["Deliver", "DeliverReport", "DeliverReportError", "Submit", "SubmitReport", "SubmitReportError",
      "StatusReport", "Command"] :=
  ((unmarshal_safe env bs).of_ok h).1

/-- **Marshal of anything Unmarshal returned never panics** -/
theorem C18_marshal_total (e : Env) (bs : Bytes) (p : Tpdu) (h : unmarshal e bs = .ok p) :
    (marshal e p).isPanic = false :=
  (marshal_safe e p ((unmarshal_safe e bs).of_ok h).2).isPanic_eq_false

/-- the two together, as the property states it -/
theorem C18_total (bs : Bytes) :
    (unmarshal env bs).isPanic = false ∧ ∀ p, unmarshal env bs = .ok p → (marshal env p).isPanic = false :=
  ⟨C18_unmarshal_total env bs, fun p h => C18_marshal_total env bs p h⟩

/-! ## the cases the property names (evaluated on the model; the same inputs run on the code in corpus/C18.txt) -/

/-- a time stamp made of filler nibbles is an error, not a panic (the defect repaired by 0bbec60) -/
example : unmarshal env ([0x07, 0x91, 0x16, 0x04, 0x89, 0x56, 0x26, 0xF9, 0x04, 0x00, 0x00, 0x00,
    0xFF, 0xFF, 0xFF, 0xFF, 0xFF, 0xFF, 0xFF, 0x00]) = .err .filler := by decide +kernel

/-- an enhanced validity period hh:mm:ss with a filler nibble -/
example : unmarshal env ([0x00, 0x09, 0x2A, 0x00, 0x00, 0x00, 0x03, 0xF0, 0x21, 0x54, 0, 0, 0, 0x00]) = .err .filler := by
  decide +kernel

/-- user-data length beyond the remaining octets: a value (zero padded), re-encoded without panic -/
example : (match unmarshal env [0x00, 0x01, 0x2A, 0x00, 0x00, 0x00, 0xFF, 0x41] with
    | .ok p => (p.name, (marshal env p).isOk)
    | _ => ("", false)) = ("Submit", true) := by decide +kernel

/-- non-vacuity: a captured SMS-DELIVER decodes and re-encodes -/
example : (match unmarshal env [0x07, 0x91, 0x16, 0x04, 0x89, 0x56, 0x26, 0xF9, 0x04, 0x0B, 0x91, 0x16, 0x04, 0x89, 0x56, 0x26, 0xF9,
      0x00, 0x00, 0x71, 0x80, 0x13, 0x11, 0x12, 0x45, 0x23, 0x02, 0x41, 0x42] with
    | .ok p => marshal env p
    | _ => .err .eof) = .ok [0x07, 0x91, 0x16, 0x04, 0x89, 0x56, 0x26, 0xF9, 0x04, 0x0B, 0x91, 0x16, 0x04, 0x89, 0x56, 0x26, 0xF9,
      0x00, 0x00, 0x71, 0x80, 0x13, 0x11, 0x12, 0x45, 0x23, 0x02, 0x41, 0x42] := by decide +kernel

end Smpp.Properties.C18

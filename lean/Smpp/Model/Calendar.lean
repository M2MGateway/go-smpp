/-
The proleptic Gregorian calendar as Go's time.Date / accessors compute with it
(day numbers relative to 1970-01-01; the well-known civil-from-days algorithms).
-/
namespace Smpp.Time

/-- days from 1970-01-01 to y-m-d (m in 1..12; d any integer) -/
def daysFromCivil (y : Int) (m : Int) (d : Int) : Int :=
  let y' := if m ≤ 2 then y - 1 else y
  let era := y' / 400            -- Int division rounds toward −∞ for positive divisors (Int.div = fdiv on `/`)
  let yoe := y' - era * 400
  let mp := (m + 9) % 12
  let doy := (153 * mp + 2) / 5 + d - 1
  let doe := yoe * 365 + yoe / 4 - yoe / 100 + doy
  era * 146097 + doe - 719468

/-- inverse: (year, month, day) of a day number -/
def civilFromDays (z0 : Int) : Int × Int × Int :=
  let z := z0 + 719468
  let era := z / 146097
  let doe := z - era * 146097
  let yoe := (doe - doe / 1460 + doe / 36524 - doe / 146096) / 365
  let y := yoe + era * 400
  let doy := doe - (365 * yoe + yoe / 4 - yoe / 100)
  let mp := (5 * doy + 2) / 153
  let d := doy - (153 * mp + 2) / 5 + 1
  let m := if mp < 10 then mp + 3 else mp - 9
  (if m ≤ 2 then y + 1 else y, m, d)


def isLeap (y : Nat) : Bool := (y % 4 == 0 && y % 100 != 0) || y % 400 == 0

/-- days in month, written from the calendar rules -/
def daysInMonth (y m : Nat) : Nat :=
  if m == 2 then (if isLeap y then 29 else 28)
  else if m == 4 || m == 6 || m == 9 || m == 11 then 30 else 31

end Smpp.Time

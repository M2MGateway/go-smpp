/-
SMPP time strings: digit lemmas (finite, by evaluation), time.Date's normalisation is the
identity on valid civil dates (from `civil_roundtrip`), and the two round trips.
-/
import Smpp.Model.Time
import Smpp.Proofs.Calendar

namespace Smpp.Time

/-- the two ASCII digits of n < 100 -/
def d2a (n : Nat) : UInt8 := UInt8.ofNat (48 + n / 10)
def d2b (n : Nat) : UInt8 := UInt8.ofNat (48 + n % 10)

theorem fmt02_lt {n : Nat} (h : n < 100) : fmt02 (n : Int) = [d2a n, d2b n] :=
  (by decide +kernel : ∀ n : Fin 100, fmt02 ((n.val : Nat) : Int) = [d2a n.val, d2b n.val]) ⟨n, h⟩
theorem fmtD_lt {n : Nat} (h : n < 10) : fmtD (n : Int) = [UInt8.ofNat (48 + n)] :=
  (by decide +kernel : ∀ n : Fin 10, fmtD ((n.val : Nat) : Int) = [UInt8.ofNat (48 + n.val)]) ⟨n, h⟩
theorem parse1_lt {n : Nat} (h : n < 10) : parseInt [UInt8.ofNat (48 + n)] = (n : Int) :=
  (by decide +kernel : ∀ n : Fin 10, parseInt [UInt8.ofNat (48 + n.val)] = ((n.val : Nat) : Int)) ⟨n, h⟩

theorem parse2_range_fin : ∀ a b : Fin 10,
    parseInt [UInt8.ofNat (48 + a.val), UInt8.ofNat (48 + b.val)] = ((a.val * 10 + b.val : Nat) : Int) := by
  decide +kernel

theorem parse2_lt {n : Nat} (h : n < 100) : parseInt [d2a n, d2b n] = (n : Int) :=
  (parse2_range_fin ⟨n / 10, by omega⟩ ⟨n % 10, by omega⟩).trans (congrArg Int.ofNat (Nat.div_add_mod' n 10))

/-- digit characters come back from parse-then-format -/
theorem fmt02_parse_fin : ∀ a b : Fin 10,
    fmt02 (parseInt [UInt8.ofNat (48 + a.val), UInt8.ofNat (48 + b.val)])
      = [UInt8.ofNat (48 + a.val), UInt8.ofNat (48 + b.val)] := by decide +kernel

theorem fmtD_parse_fin : ∀ a : Fin 10,
    fmtD (parseInt [UInt8.ofNat (48 + a.val)]) = [UInt8.ofNat (48 + a.val)] := by
  intro a
  rw [parse1_lt a.isLt, fmtD_lt a.isLt]

/-- for the fields of `durString`: a remainder below `B`, divided by a unit of which a hundred (ten) make at least `B`, is a two-digit (one-digit) number -/
theorem mod_div_lt {n B b k : Nat} (hB : 0 < B) (h : B ≤ b * k) : n % B / b < k :=
  Nat.div_lt_of_lt_mul (Nat.lt_of_lt_of_le (Nat.mod_lt n hB) h)

theorem daysFromCivil_linear (y m d : Int) : daysFromCivil y m 1 + (d - 1) = daysFromCivil y m d := by
  unfold daysFromCivil
  simp only
  omega

structure ValidCivil (y m d h mi s t : Nat) : Prop where
  year : 2000 ≤ y ∧ y ≤ 2099
  month : 1 ≤ m ∧ m ≤ 12
  day : 1 ≤ d ∧ d ≤ daysInMonth y m
  hour : h < 24
  min : mi < 60
  sec : s < 60
  tenth : t < 10

theorem ValidCivil.lt_100 {y m d h mi s t : Nat} (hv : ValidCivil y m d h mi s t) :
    m < 100 ∧ d < 100 ∧ h < 100 ∧ mi < 100 ∧ s < 100 := by
  have := (le_daysInMonth hv.day.2).1
  obtain ⟨_, hm, _, hh, hmi, hs, _⟩ := hv
  omega

theorem hms_split (D : Int) (h mi s : Nat) (hh : h < 24) (hmi : mi < 60) (hs : s < 60) {T : Int}
    (hT : T = (h : Int) * 3600 + (mi : Int) * 60 + s) :
    (D * 86400 + T) / 86400 = D ∧ (D * 86400 + T) % 86400 = T ∧ T / 3600 = h ∧ T % 3600 / 60 = mi ∧ T % 60 = s := by
  omega

/-- time.Date followed by the accessors is the identity on in-range fields of a date that survives the day-number round trip -/
theorem norm_valid (y m d h mi s : Nat) (ns off : Int) (hm : 1 ≤ m ∧ m ≤ 12) (hh : h < 24) (hmi : mi < 60) (hs : s < 60)
    (hns : 0 ≤ ns ∧ ns < 1000000000)
    (hcal : civilFromDays (daysFromCivil y m d) = ((y : Int), (m : Int), (d : Int))) :
    GoDate.norm ⟨y, m, d, h, mi, s, ns, off⟩ = ⟨y, m, d, h, mi, s, ns, off⟩ := by
  obtain ⟨q, r, a1, a2, a3⟩ := hms_split (daysFromCivil y m d) h mi s hh hmi hs rfl
  have e1 : ((m : Int) - 1) / 12 = 0 := by omega
  have e2 : ((m : Int) - 1) % 12 + 1 = m := by omega
  have e3 : ns / 1000000000 = 0 := by omega
  have e4 : ns % 1000000000 = ns := by omega
  have htot : daysFromCivil (y : Int) m 1 * 86400 + ((d : Int) - 1) * 86400 + (h : Int) * 3600 + (mi : Int) * 60 + s
      = daysFromCivil (y : Int) m d * 86400 + ((h : Int) * 3600 + (mi : Int) * 60 + s) := by
    have := daysFromCivil_linear y m d; omega
  simp only [GoDate.norm, e1, e2, e3, e4, Int.add_zero, htot, q, r, hcal, a1, a2, a3]

theorem ValidCivil.norm {y m d h mi s t : Nat} (hv : ValidCivil y m d h mi s t) (ns off : Int)
    (hns : 0 ≤ ns ∧ ns < 1000000000) : GoDate.norm ⟨y, m, d, h, mi, s, ns, off⟩ = ⟨y, m, d, h, mi, s, ns, off⟩ :=
  norm_valid y m d h mi s ns off hv.month hv.hour hv.min hv.sec hns (civil_roundtrip y m d hv.month hv.day)

/-- the 16 characters `YYMMDDhhmmsstnnp` built from numbers -/
def encAbs (yy m d h mi s t q : Nat) (sym : UInt8) : List UInt8 :=
  [d2a yy, d2b yy, d2a m, d2b m, d2a d, d2b d, d2a h, d2b h, d2a mi, d2b mi, d2a s, d2b s,
   UInt8.ofNat (48 + t), d2a q, d2b q, sym]

def offsetOf (q : Nat) (sym : UInt8) : Int := if sym = 45 then -((q : Int) * 900) else (q : Int) * 900

/-- any bound above the day number of year 1 (−719162) would do: it only keeps the date away from `GoDate.zero` -/
theorem daysFromCivil_ge (y m d : Int) (hy : 2000 ≤ y) (hd : 1 ≤ d) : -200000 ≤ daysFromCivil y m d := by
  unfold daysFromCivil
  extract_lets
  omega

theorem timeFrom_enc {yy m d h mi s t q : Nat} {sym : UInt8} (hyy : yy < 100)
    (hv : ValidCivil (2000 + yy) m d h mi s t) (hq : q < 100) (hsym : sym = 43 ∨ sym = 45) :
    timeFrom (encAbs yy m d h mi s t q sym)
      = some ⟨((2000 + yy : Nat) : Int), m, d, h, mi, s, (t : Int) * 100000000, offsetOf q sym⟩ := by
  obtain ⟨hm, hd, hh, hmi, hs⟩ := hv.lt_100
  have hsym' : (sym = 43 || sym = 45) = true := by simpa using hsym
  unfold timeFrom encAbs
  simp only [List.isEmpty_cons, Bool.false_eq_true, ↓reduceIte, fromTimeString, parse2_lt hyy, parse2_lt hm,
    parse2_lt hd, parse2_lt hh, parse2_lt hmi, parse2_lt hs, parse2_lt hq, parse1_lt hv.tenth, hsym']
  have e : (2000 : Int) + (yy : Int) = ((2000 + yy : Nat) : Int) := by omega
  have hoff : (if sym = 45 then -(q : Int) else (q : Int)) * 900 = offsetOf q sym := by
    unfold offsetOf; split <;> omega
  have ht := hv.tenth
  rw [e, hoff, hv.norm _ _ (by omega)]

/-- what `Time.String` recovers from the offset: its magnitude in quarter hours and its sign ("00-" cannot come back) -/
theorem offsetOf_split (q : Nat) (sym : UInt8) (hsym : sym = 43 ∨ sym = 45) (hz : q = 0 → sym = 43) :
    ((if offsetOf q sym < 0 then -offsetOf q sym else offsetOf q sym).toNat / 900 = q) ∧
    (if offsetOf q sym < 0 then (45 : UInt8) else 43) = sym := by
  rcases hsym with rfl | rfl
  · have hneg : ¬ ((q : Int) * 900 < 0) := by omega
    simp only [offsetOf, (by decide : ¬ (43 : UInt8) = 45), ↓reduceIte, hneg, and_true]
    omega
  · have hq0 : q ≠ 0 := fun h0 => absurd (hz h0) (by decide)
    have hneg : -((q : Int) * 900) < 0 := by omega
    simp only [offsetOf, ↓reduceIte, hneg, and_true]
    omega

/-- offsets within ±12 h (`q ≤ 48` quarter hours), as the property has it: the bound only serves to keep the instant away from
the zero time; the parser (`timeFrom_enc`) takes any two digits -/
theorem timeString_valid {yy m d h mi s t q : Nat} {sym : UInt8} (hyy : yy < 100)
    (hv : ValidCivil (2000 + yy) m d h mi s t) (hq : q ≤ 48) (hsym : sym = 43 ∨ sym = 45)
    (hz : q = 0 → sym = 43) :
    timeString ⟨((2000 + yy : Nat) : Int), m, d, h, mi, s, (t : Int) * 100000000, offsetOf q sym⟩
      = encAbs yy m d h mi s t q sym := by
  obtain ⟨hm, hd, hh, hmi, hs⟩ := hv.lt_100
  -- the instant is not the zero time: year 2000 or later, offset within ±12 h
  have hnz : GoDate.isZero ⟨((2000 + yy : Nat) : Int), m, d, h, mi, s, (t : Int) * 100000000, offsetOf q sym⟩ = false := by
    have hge := daysFromCivil_ge ((2000 + yy : Nat) : Int) m d (by omega) (by have := hv.day.1; omega)
    have hoffb : offsetOf q sym ≤ 43200 := by unfold offsetOf; split <;> omega
    have h1 : daysFromCivil 1 1 1 = -719162 := by decide
    have hne : (daysFromCivil ((2000 + yy : Nat) : Int) (m : Int) (d : Int) * 86400 + (h : Int) * 3600 + (mi : Int) * 60
        + (s : Int) - offsetOf q sym == daysFromCivil 1 1 1 * 86400) = false := by
      rw [beq_eq_false_iff_ne, h1]; omega
    simp only [GoDate.isZero, hne, Bool.false_and]
  obtain ⟨eq, es⟩ := offsetOf_split q sym hsym hz
  have ey : ((2000 + yy : Nat) : Int) - 2000 = (yy : Int) := by omega
  have et : (t : Int) * 100000000 / 100000000 = (t : Int) := by omega
  simp only [timeString, hnz, ey, et, eq, es, fmt02_lt hyy, fmt02_lt hm, fmt02_lt hd, fmt02_lt hh,
    fmt02_lt hmi, fmt02_lt hs, fmtD_lt hv.tenth, fmt02_lt (by omega : q < 100)]
  rfl

end Smpp.Time

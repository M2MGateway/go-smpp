/-
The greedy splitter: partition, fit, maximality.  `splitAux` is followed along its own recursion, with
`n = bits w cur` for the open segment.
-/
import Smpp.Model.Splitter

namespace Smpp.Splitter

theorem bits_cons (w : Nat → Nat) (r : Nat) (a : List Nat) : bits w (r :: a) = w r + bits w a := by
  simp [bits]

theorem bits_reverse (w : Nat → Nat) (a : List Nat) : bits w a.reverse = bits w a := by
  simp [bits]

/-- an encoder that works rune by rune and never needs more than the rune's width stays within the
width of the text (`k` bits to the unit of output) -/
theorem flatMap_le_bits {α : Type} (w : Nat → Nat) (k : Nat) (f : Nat → List α) (s : List Nat)
    (h : ∀ r, k * (f r).length ≤ w r) : k * (s.flatMap f).length ≤ bits w s := by
  induction s with
  | nil => simp
  | cons r s ih =>
    have := h r
    rw [List.flatMap_cons, List.length_append, bits_cons, Nat.mul_add]
    omega

theorem splitAux_flatten (w : Nat → Nat) (limit : Nat) (hw : ∀ r, 0 < w r)
    (t cur : List Nat) (n : Nat) (hn : n = bits w cur) :
      (splitAux w limit t cur n).flatten = cur.reverse ++ t := by
  fun_induction splitAux w limit t cur n with
  | case1 cur n h => simp
  | case2 cur n h =>
    -- the open segment counts 0 bits: with positive widths it is empty
    cases cur with
    | nil => rfl
    | cons r c => rw [bits_cons] at hn; have := hw r; omega
  | case3 r t cur n h ih => simp [ih (by simp [bits])]
  | case4 r t cur n h ih => simp [ih (by rw [bits_cons, hn]; omega)]

theorem closed_fits {w : Nat → Nat} {limit n : Nat} {cur : List Nat} (hn : n = bits w cur) (hl : n ≤ limit)
    (hpos : n > 0) : bits w cur.reverse ≤ limit ∧ cur.reverse ≠ [] :=
  ⟨by rw [bits_reverse]; omega, fun h0 => by rw [hn, List.reverse_eq_nil_iff.mp h0] at hpos; exact Nat.lt_irrefl 0 hpos⟩

theorem splitAux_fits (w : Nat → Nat) (limit : Nat) (hw : ∀ r, 0 < w r ∧ w r ≤ limit)
    (t cur : List Nat) (n : Nat) (hn : n = bits w cur) (hl : n ≤ limit) :
      ∀ s ∈ splitAux w limit t cur n, bits w s ≤ limit ∧ s ≠ [] := by
  fun_induction splitAux w limit t cur n with
  | case1 cur n h => simpa using closed_fits hn hl h
  | case2 cur n h => simp
  | case3 r t cur n h ih =>
    intro s hs
    rcases List.mem_cons.mp hs with rfl | hs
    · exact closed_fits hn hl (by have := (hw r).2; omega)
    · exact ih (by simp [bits]) (hw r).2 s hs
  | case4 r t cur n h ih => exact ih (by rw [bits_cons, hn]; omega) (by omega)

theorem splitAux_first (w : Nat → Nat) (limit : Nat) (t cur : List Nat) (n : Nat) (b : List Nat)
    (post : List (List Nat)) (h : splitAux w limit t cur n = b :: post) : ∃ b', b = cur.reverse ++ b' := by
  fun_induction splitAux w limit t cur n with
  | case1 cur n _ | case3 r t cur n _ _ => exact ⟨[], by simp [(List.cons.inj h).1]⟩
  | case2 cur n _ => cases h
  | case4 r t cur n _ ih =>
    obtain ⟨b', hb'⟩ := ih h
    exact ⟨r :: b', by simp [hb']⟩

theorem splitAux_maximal (w : Nat → Nat) (limit : Nat) (t cur : List Nat) (n : Nat) (hn : n = bits w cur)
    (pre : List (List Nat)) (a b : List Nat) (post : List (List Nat))
    (h : splitAux w limit t cur n = pre ++ a :: b :: post) :
    ∃ r b', b = r :: b' ∧ bits w a + w r > limit := by
  fun_induction splitAux w limit t cur n generalizing pre with
  | case1 cur n _ | case2 cur n _ =>
    have := congrArg List.length h
    simp only [List.length_append, List.length_cons, List.length_nil] at this
    omega
  | case3 r t cur n hover ih =>
    cases pre with
    | nil =>
      obtain ⟨ha, hrest⟩ := List.cons.inj h
      obtain ⟨b', hb'⟩ := splitAux_first w limit t [r] (w r) b post hrest
      exact ⟨r, b', by simpa using hb', by rw [← ha, bits_reverse]; omega⟩
    | cons p pre' => exact ih (by simp [bits]) pre' (List.cons.inj h).2
  | case4 r t cur n _ ih => exact ih (by rw [bits_cons, hn]; omega) pre h

theorem split_flatten (w : Nat → Nat) (lim : Nat) (hw : ∀ r, 0 < w r) (t : List Nat) :
    (split w lim t).flatten = t := by
  unfold split
  simpa using splitAux_flatten w (lim * 8) hw t [] 0 (by simp [bits])

theorem split_fits (w : Nat → Nat) (lim : Nat) (hw : ∀ r, 0 < w r ∧ w r ≤ lim * 8) (t : List Nat) :
    ∀ s ∈ split w lim t, bits w s ≤ lim * 8 ∧ s ≠ [] := by
  unfold split
  exact splitAux_fits w (lim * 8) hw t [] 0 (by simp [bits]) (by omega)

theorem split_maximal (w : Nat → Nat) (lim : Nat) (t : List Nat) (pre : List (List Nat)) (a b : List Nat)
    (post : List (List Nat)) (h : split w lim t = pre ++ a :: b :: post) :
    ∃ r b', b = r :: b' ∧ bits w a + w r > lim * 8 := by
  unfold split at h
  exact splitAux_maximal w (lim * 8) t [] 0 (by simp [bits]) pre a b post h

end Smpp.Splitter

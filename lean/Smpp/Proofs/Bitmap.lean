/-
Finite sets of natural numbers as bitmaps: the set is the number whose bit `r` says whether `r`
belongs to it.  Union, intersection and membership are `|||`, `&&&` and `testBit`, each of which the
kernel computes on binary numerals in one step, so that an inclusion between two lists of some
thousand intervals, or a lookup in a table, costs one pass where a list walks once per element.
-/
import Smpp.Model.Coding

namespace Smpp.Bitmap

/-- the members of `l` -/
def ofList (l : List Nat) : Nat := l.foldr (fun r m => 2 ^ r ||| m) 0

/-- `ofList`, `ofIntervals` and `ofParts` are unions of this shape: a member of the union is a member of some part -/
theorem testBit_foldr_or {α : Type} (g : α → Nat) (l : List α) (r : Nat) :
    (l.foldr (fun x m => g x ||| m) 0).testBit r = l.any fun x => (g x).testBit r := by
  induction l with
  | nil => simp
  | cons a l ih => rw [List.foldr_cons, Nat.testBit_or, ih, List.any_cons]

theorem testBit_ofList (l : List Nat) (r : Nat) : (ofList l).testBit r = decide (r ∈ l) := by
  rw [ofList, testBit_foldr_or, Bool.eq_iff_iff]
  simp [Nat.testBit_two_pow]

theorem mem_iff_of_ofList_eq {l₁ l₂ : List Nat} (h : ofList l₁ = ofList l₂) (r : Nat) : r ∈ l₁ ↔ r ∈ l₂ := by
  simpa [testBit_ofList] using congrArg (·.testBit r) h

/-- no member of `l` is in `m` or occurs twice in `l` -/
def fresh : List Nat → Nat → Bool
  | [], _ => true
  | r :: l, m => !m.testBit r && fresh l (m ||| 2 ^ r)

theorem fresh_sound : ∀ (l : List Nat) (m : Nat), fresh l m = true → l.Nodup ∧ ∀ r ∈ l, m.testBit r = false
  | [], _, _ => ⟨List.nodup_nil, fun _ h => nomatch h⟩
  | a :: l, m, h => by
    simp only [fresh, Bool.and_eq_true, Bool.not_eq_true'] at h
    have ⟨hn, hm⟩ := fresh_sound l _ h.2
    simp only [Nat.testBit_or, Nat.testBit_two_pow, Bool.or_eq_false_iff, decide_eq_false_iff_not] at hm
    refine ⟨List.nodup_cons.mpr ⟨fun ha => (hm a ha).2 rfl, hn⟩, fun r hr => ?_⟩
    rcases List.mem_cons.mp hr with rfl | hr
    · exact h.1
    · exact (hm r hr).1

theorem nodup_of_fresh {l : List Nat} (h : fresh l 0 = true) : l.Nodup := (fresh_sound l 0 h).1

/-- the points of a union of closed intervals -/
def ofIntervals (X : List (Nat × Nat)) : Nat :=
  X.foldr (fun x m => (2 ^ (x.2 + 1 - x.1) - 1) <<< x.1 ||| m) 0

theorem testBit_ofIntervals (X : List (Nat × Nat)) (r : Nat) :
    (ofIntervals X).testBit r = Coding.inIv X r := by
  rw [ofIntervals, testBit_foldr_or, Coding.inIv]
  congr 1
  funext x
  rw [Nat.testBit_shiftLeft, Nat.testBit_two_pow_sub_one]
  by_cases h : x.1 ≤ r
  · simp only [h, decide_true, Bool.true_and, decide_eq_decide]; omega
  · simp [h]

/-- `X` is the concatenation of `Xs`.  The long generated lists are `(l₀ ++ l₁) ++ …`, through which the kernel
reaches an element of `lᵢ` only after one step per `++` to its right.  `repeat constructor`, which tries `snoc`
first, finds `Xs = [l₀, l₁, …]` (`[X]` when `X` is no concatenation), and the bitmap is computed part by part. -/
inductive Concat {α : Type} : List α → List (List α) → Prop
  | snoc {X Xs} (Y : List α) : Concat X Xs → Concat (X ++ Y) (Xs ++ [Y])
  | one (X : List α) : Concat X [X]

theorem Concat.eq_flatten {α : Type} {X : List α} {Xs} (h : Concat X Xs) : X = Xs.flatten := by
  induction h with
  | snoc Y _ ih => rw [List.flatten_append, ← ih]; simp
  | one X => simp

def ofParts (Xs : List (List (Nat × Nat))) : Nat := Xs.foldr (fun X m => ofIntervals X ||| m) 0

theorem testBit_ofParts (Xs : List (List (Nat × Nat))) (r : Nat) :
    (ofParts Xs).testBit r = Coding.inIv Xs.flatten r := by
  rw [ofParts, testBit_foldr_or]
  simp [testBit_ofIntervals, Coding.inIv]

/-- V ⊆ A ∪ K -/
theorem covered {V A K : List (Nat × Nat)} {As Ks} (hA : Concat A As) (hK : Concat K Ks)
    (h : (ofIntervals V &&& (ofParts As ||| ofParts Ks) == ofIntervals V) = true) (r : Nat)
    (hr : Coding.inIv V r = true) : Coding.inIv A r = true ∨ Coding.inIv K r = true := by
  have := congrArg (·.testBit r) (beq_iff_eq.mp h)
  rw [hA.eq_flatten, hK.eq_flatten]
  simpa [testBit_ofIntervals, testBit_ofParts, hr] using this

end Smpp.Bitmap

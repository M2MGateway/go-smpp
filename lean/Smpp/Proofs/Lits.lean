/-
String literals as lists of characters.

The kernel can evaluate a `String` function on a literal only by building the literal's UTF-8
`ByteArray` (`String.ofList`, then `List.toByteArray`: one `push` per octet, quadratic in the length),
which for the statement lists of the source snapshots dwarfs everything else.  But it checks
`"abc" = String.ofList ['a', 'b', 'c']` by converting the literal, evaluating nothing, and the
elaborator's unifier solves `"abc" =?= String.ofList ?l` the same way.  So a filter over a list of
literals is evaluated on the character lists, and `Lits` carries the result back.
(`xs = [literals]` with `xs` a definition needs none of this: it is `rfl`.)
-/
namespace Smpp

/-- `ss` are the strings of the character lists `ls`.  For a list of literals `repeat constructor`
finds `ls`: each step unifies one literal with `String.ofList ?l`. -/
inductive Lits : List String → List (List Char) → Prop
  | nil : Lits [] []
  | cons (l : List Char) {ss ls} : Lits ss ls → Lits (String.ofList l :: ss) (l :: ls)

theorem Lits.eq_map {ss ls} (h : Lits ss ls) : ss = ls.map String.ofList := by
  induction h with
  | nil => rfl
  | cons l _ ih => rw [List.map_cons, ← ih]

/-- a filter of literals, evaluated on their characters (`q'` is found by proving `hq`) -/
theorem Lits.filter {q : String → Bool} {q' : List Char → Bool} {ss es ls les}
    (hq : ∀ l, q (String.ofList l) = q' l) (hs : Lits ss ls) (he : Lits es les)
    (h : ls.filter q' = les) : ss.filter q = es := by
  rw [hs.eq_map, he.eq_map, ← h, List.filter_map]
  exact congrArg _ (List.filter_congr fun l _ => hq l)

/-- the same for pairs whose first component is a literal -/
inductive LitFsts {α : Type} : List (String × α) → List (List Char × α) → Prop
  | nil : LitFsts [] []
  | cons (l : List Char) (a : α) {ss ls} : LitFsts ss ls → LitFsts ((String.ofList l, a) :: ss) ((l, a) :: ls)

theorem LitFsts.eq_map {α} {ss : List (String × α)} {ls} (h : LitFsts ss ls) :
    ss = ls.map fun p => (String.ofList p.1, p.2) := by
  induction h with
  | nil => rfl
  | cons l a _ ih => rw [List.map_cons, ← ih]

theorem LitFsts.filter {α} {q : String × α → Bool} {q' : List Char → α → Bool} {ss es : List (String × α)} {ls les}
    (hq : ∀ l a, q (String.ofList l, a) = q' l a) (hs : LitFsts ss ls) (he : LitFsts es les)
    (h : ls.filter (fun p => q' p.1 p.2) = les) : ss.filter q = es := by
  rw [hs.eq_map, he.eq_map, ← h, List.filter_map]
  exact congrArg _ (List.filter_congr fun p _ => hq p.1 p.2)

theorem LitFsts.all {α} {q : String × α → Bool} {q' : List Char → α → Bool} {ss : List (String × α)} {ls}
    (hq : ∀ l a, q (String.ofList l, a) = q' l a) (hs : LitFsts ss ls) :
    ss.all q = ls.all fun p => q' p.1 p.2 := by
  rw [hs.eq_map, List.all_map]
  exact List.all_congr rfl fun p => hq p.1 p.2

theorem startsWith_ofList (l p : List Char) :
    (String.ofList l).startsWith (String.ofList p) = p.isPrefixOf l := by
  rw [Bool.eq_iff_iff, String.startsWith_string_iff, String.toList_ofList, String.toList_ofList,
    List.isPrefixOf_iff_prefix]

theorem endsWith_ofList (l p : List Char) :
    (String.ofList l).endsWith (String.ofList p) = p.isSuffixOf l := by
  rw [Bool.eq_iff_iff, String.endsWith_eq_endsWith_toSlice, String.Slice.endsWith_string_iff]
  simp

/-- `hq` of `Lits.filter` for a predicate that combines several tests, e.g. `congrArg₂ or (startsWith_ofList l _)
(startsWith_ofList l _)`.  In term mode, because `rw [startsWith_ofList, startsWith_ofList]` compares each pattern with every
test, and comparing a literal with another literal's characters evaluates both UTF-8 encodings. -/
theorem congrArg₂ {α β γ : Sort _} (f : α → β → γ) {a a' : α} {b b' : β} (ha : a = a') (hb : b = b') : f a b = f a' b' :=
  ha ▸ hb ▸ rfl

end Smpp

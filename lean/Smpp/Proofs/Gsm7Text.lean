/-
Text level of the GSM 7-bit codec: the forward table is derived from the inverse one, so only the
escapes and the CR position need a (finite) check on the regenerated tables; hence decoding what the
encoder produced returns the text — up to the one trailing CR of the ambiguous case.
-/
import Smpp.Proofs.Gsm7Pack
import Smpp.Generated.Gsm7Facts

namespace Smpp.Gsm7

/-- every rune the encoder can accept, listed from the tables -/
def acceptedList (rev : List Nat) (escs : List (Nat × Nat)) : List Nat :=
  (((rev.take 128).zipIdx).filter (fun p => p.2 != esc)).map (·.1) ++ escs.map (·.1)

theorem accepts_iff_mem {rev : List Nat} {escs : List (Nat × Nat)} {r : Nat} :
    accepts rev escs r = true ↔ r ∈ acceptedList rev escs := by
  simp [accepts, forwardOf, escapeOf, acceptedList, and_assoc]

/-- the forward table inverts `rev` by construction, whatever `rev` is -/
theorem forwardOf_eq_some {rev : List Nat} {r v : Nat} (h : forwardOf rev r = some v) :
    v ≠ esc ∧ v < 128 ∧ rev[v]? = some r := by
  obtain ⟨⟨x, i⟩, hp, rfl⟩ := Option.map_eq_some_iff.mp h
  have hm := List.mem_of_getLast? hp
  simp only [List.mem_filter, List.mk_mem_zipIdx_iff_getElem?, List.getElem?_take, Bool.and_eq_true, bne_iff_ne,
    beq_iff_eq] at hm
  obtain ⟨hx, hne, rfl⟩ := hm
  split at hx
  · exact ⟨hne, ‹_›, hx⟩
  · cases hx

/-- table.go's loop lets a later position of a rune overwrite an earlier one; in a table that holds no rune
twice, the position `forwardOf` finds is also the first -/
theorem forwardOf_eq_find? {rev : List Nat}
    (h : (((rev.take 128).zipIdx.filter fun p => p.2 != esc).map (·.1)).Nodup) (r : Nat) :
    forwardOf rev r = ((rev.take 128).zipIdx.find? fun p => p.2 != esc && p.1 == r).map (·.2) := by
  -- at most one position matches, so the last match is the first
  have hc : ((rev.take 128).zipIdx.filter fun p => p.2 != esc && p.1 == r).length ≤ 1 := by
    simpa only [List.count_eq_countP, List.countP_eq_length_filter, List.filter_map, List.length_map, List.filter_filter,
      Function.comp_def, Bool.and_comm] using List.nodup_iff_count.mp h r
  rw [forwardOf, ← List.head?_filter]
  match (rev.take 128).zipIdx.filter _, hc with
  | [], _ | [_], _ => rfl

/-- what the round trip needs of the tables beyond that: every escape code is a septet other than CR and leads
back to its rune (so no code stands for two runes), and position CR holds U+000D -/
def tablesOK (rev : List Nat) (escs : List (Nat × Nat)) : Bool :=
  escs.all (fun p => unescapeOf escs p.2 == some p.1 && decide (p.2 < 128) && p.2 != cr) && rev.getD cr 0 == 13

theorem tables_ok : tablesOK Generated.gsmReverse Generated.gsmEscapes = true := by decide +kernel

theorem tablesOK_cr {rev : List Nat} {escs : List (Nat × Nat)} (hT : tablesOK rev escs = true) : rev.getD cr 0 = 13 := by
  simp only [tablesOK, Bool.and_eq_true, beq_iff_eq] at hT
  exact hT.2

theorem tablesOK_escape {rev : List Nat} {escs : List (Nat × Nat)} (hT : tablesOK rev escs = true) {r v : Nat}
    (h : escapeOf escs r = some v) : unescapeOf escs v = some r ∧ v < 128 ∧ v ≠ cr := by
  simp only [tablesOK, Bool.and_eq_true, List.all_eq_true, beq_iff_eq, decide_eq_true_eq, bne_iff_ne] at hT
  obtain ⟨p, hp, rfl⟩ := Option.map_eq_some_iff.mp h
  cases (by simpa using List.find?_some hp : p.1 = r)
  exact and_assoc.mp (hT.1 p (List.mem_of_find?_eq_some hp))

/-- the septets of one rune: its position in the table, or ESC and its escape code -/
def runeSeptets (rev : List Nat) (escs : List (Nat × Nat)) (r : Nat) : Option (List Nat) :=
  match forwardOf rev r with
  | some v => some [v]
  | none => (escapeOf escs r).map fun v => [esc, v]

theorem toSeptets_cons (rev : List Nat) (escs : List (Nat × Nat)) (r : Nat) (t : List Nat) :
    toSeptets rev escs (r :: t) =
      (runeSeptets rev escs r).bind fun c => (toSeptets rev escs t).map (c ++ ·) := by
  unfold runeSeptets
  rw [toSeptets]
  cases forwardOf rev r with
  | some v => rfl
  | none => cases escapeOf escs r <;> rfl

theorem toSeptets_cons_eq_some {rev : List Nat} {escs : List (Nat × Nat)} {r : Nat} {t s : List Nat} :
    toSeptets rev escs (r :: t) = some s ↔
      ∃ c, runeSeptets rev escs r = some c ∧ ∃ s', toSeptets rev escs t = some s' ∧ c ++ s' = s := by
  simp only [toSeptets_cons, Option.bind_eq_some_iff, Option.map_eq_some_iff]

theorem accepts_eq_isSome (rev : List Nat) (escs : List (Nat × Nat)) (r : Nat) :
    accepts rev escs r = (runeSeptets rev escs r).isSome := by
  unfold accepts runeSeptets
  cases forwardOf rev r <;> simp

theorem decodeSeptets_cons {rev : List Nat} {escs : List (Nat × Nat)} {s : Nat} (t : List Nat) (h : s ≠ esc) :
    decodeSeptets rev escs (s :: t) = (decodeSeptets rev escs t).map (rev.getD s 0 :: ·) := by
  rw [decodeSeptets.eq_def]
  simp only [bne_iff_ne, ne_eq, h, not_false_eq_true, ↓reduceIte]

theorem runeSeptets_ok {rev : List Nat} {escs : List (Nat × Nat)} (hT : tablesOK rev escs = true)
    {r : Nat} {c : List Nat} (h : runeSeptets rev escs r = some c) :
    (∀ x ∈ c, x < 128) ∧
    (∀ rest, decodeSeptets rev escs (c ++ rest) = (decodeSeptets rev escs rest).map (r :: ·)) ∧
    (c.getLast? = some cr → r = 13) := by
  unfold runeSeptets at h
  split at h
  · next v hf =>
    cases h
    obtain ⟨hesc, hlt, hget⟩ := forwardOf_eq_some hf
    refine ⟨by simpa using hlt, fun rest => ?_, fun hl => ?_⟩
    · rw [List.singleton_append, decodeSeptets_cons rest hesc, List.getD_eq_getElem?_getD, hget]
      rfl
    · cases (by simpa using hl : v = cr)
      simpa [hget] using tablesOK_cr hT
  · obtain ⟨v, he, rfl⟩ := Option.map_eq_some_iff.mp h
    obtain ⟨hun, hlt, hcr⟩ := tablesOK_escape hT he
    refine ⟨?_, fun rest => ?_, fun hl => absurd (by simpa using hl) hcr⟩
    · simp [hlt, esc]
    · simp [decodeSeptets, hun]

theorem eq_nil_of_toSeptets_nil {rev : List Nat} {escs : List (Nat × Nat)} (t : List Nat)
    (h : toSeptets rev escs t = some []) : t = [] := by
  cases t with
  | nil => rfl
  | cons r t =>
    -- a rune has at least one septet
    obtain ⟨c, hc, s', _, hs⟩ := toSeptets_cons_eq_some.mp h
    cases (List.append_eq_nil_iff.mp hs).1
    unfold runeSeptets at hc
    split at hc <;> simp at hc

theorem toSeptets_eq_flatMap {rev : List Nat} {escs : List (Nat × Nat)} :
    ∀ {t s : List Nat}, toSeptets rev escs t = some s → s = t.flatMap fun r => (runeSeptets rev escs r).getD []
  | [], s, h => (Option.some.inj h).symm
  | r :: t, s, h => by
    obtain ⟨c, hc, s', hs', rfl⟩ := toSeptets_cons_eq_some.mp h
    rw [List.flatMap_cons, hc, ← toSeptets_eq_flatMap hs']
    rfl

theorem toSeptets_lt {rev : List Nat} {escs : List (Nat × Nat)} (hT : tablesOK rev escs = true) :
    ∀ (t s : List Nat), toSeptets rev escs t = some s → ∀ x ∈ s, x < 128
  | [], s, h, x, hx => by cases Option.some.inj h; cases hx
  | r :: t, s, h, x, hx => by
    obtain ⟨c, hc, s', hs', rfl⟩ := toSeptets_cons_eq_some.mp h
    rcases List.mem_append.mp hx with hx | hx
    · exact (runeSeptets_ok hT hc).1 x hx
    · exact toSeptets_lt hT t s' hs' x hx

theorem decodeSeptets_toSeptets {rev : List Nat} {escs : List (Nat × Nat)} (hT : tablesOK rev escs = true) :
    ∀ (t s rest : List Nat), toSeptets rev escs t = some s →
      decodeSeptets rev escs (s ++ rest) = (decodeSeptets rev escs rest).map (t ++ ·)
  | [], s, rest, h => by cases Option.some.inj h; simp
  | r :: t, s, rest, h => by
    obtain ⟨c, hc, s', hs', rfl⟩ := toSeptets_cons_eq_some.mp h
    rw [List.append_assoc, (runeSeptets_ok hT hc).2.1, decodeSeptets_toSeptets hT t s' rest hs', Option.map_map]
    rfl

theorem toSeptets_last_cr {rev : List Nat} {escs : List (Nat × Nat)} (hT : tablesOK rev escs = true) :
    ∀ (t s : List Nat), toSeptets rev escs t = some s → s.getLast? = some cr → t.getLast? = some 13
  | [], s, h, hl => by cases Option.some.inj h; cases hl
  | r :: t, s, h, hl => by
    obtain ⟨c, hc, s', hs', rfl⟩ := toSeptets_cons_eq_some.mp h
    rw [List.getLast?_cons]
    cases hs'l : s'.getLast? with
    | none =>
      -- `r` is the last rune
      rw [eq_nil_of_toSeptets_nil t (List.getLast?_eq_none_iff.mp hs'l ▸ hs'), (runeSeptets_ok hT hc).2.2 (by simpa [hs'l] using hl)]
      rfl
    | some a =>
      -- the last septet belongs to a later rune
      rw [toSeptets_last_cr hT t s' hs' (by simpa [hs'l] using hl)]
      rfl

/-- **Round trip.**  Decoding the encoder's output returns the text; only when the text has a
multiple of eight septets and ends in CR is that final CR taken for a filler and dropped. -/
theorem decode_encode {rev : List Nat} {escs : List (Nat × Nat)} (hT : tablesOK rev escs = true)
    (t : List Nat) (b : List UInt8) (he : encode rev escs t = some b) :
    decode rev escs b = some t ∨
    (∃ s, toSeptets rev escs t = some s ∧ s.length % 8 = 0 ∧ t.getLast? = some 13 ∧
      decode rev escs b = some t.dropLast) := by
  unfold encode at he
  split at he
  · next ht =>
    cases he
    rw [List.isEmpty_iff.mp ht]
    exact .inl rfl
  · next ht =>
    obtain ⟨s, hs, rfl⟩ := Option.map_eq_some_iff.mp he
    have hne : pack s ≠ [] := fun h => ht (by rw [eq_nil_of_toSeptets_nil t (pack_eq_nil h ▸ hs)]; rfl)
    have hd := fun rest => decodeSeptets_toSeptets hT t s rest hs
    unfold decode
    simp only [List.isEmpty_eq_false_iff.mpr hne, Bool.false_eq_true, ↓reduceIte,
      unpack_pack s (toSeptets_lt hT t s hs)]
    unfold withFiller
    by_cases h7 : s.length % 8 = 7
    · -- the filler decodes to U+000D and is stripped again
      rw [if_pos h7, hd, decodeSeptets_cons (s := cr) [] (by decide)]
      have h0 : (s.length + 1) % 8 = 0 := by omega
      simp [decodeSeptets, h0]
    · have hd0 : decodeSeptets rev escs s = some t := by simpa [decodeSeptets] using hd []
      simp only [if_neg h7, hd0]
      by_cases h0 : s.length % 8 = 0 ∧ s.getLast? = some cr
      · exact .inr ⟨s, hs, h0.1, toSeptets_last_cr hT t s hs h0.2, by simp [h0.1, h0.2]⟩
      · exact .inl (if_neg (by simpa using h0))

end Smpp.Gsm7

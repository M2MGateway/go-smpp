/-
Progress for the connection model (C05 "every Submit call returns", C15 "returns promptly"):

 * every goroutine step strictly decreases a natural-number measure, so between two environment
   events the goroutines can only take finitely many steps (no livelock);
 * a state in which no goroutine step is enabled is characterised: under the C05 environment an
   answered Submit has returned its own response; after teardown every started call has returned;
 * from a calm state (no teardown under way) an answered Submit reaches that state at rest by
   goroutine steps alone.
-/
import Smpp.Proofs.ConnInv

namespace Smpp.Conn

/-- steps taken by the library's goroutines (callers past `start`, Watch) and the transport's Write
returning; NOT: the application starting a call, the peer, timers, faults, the keep-alive scheduler -/
def Label.internal : Label → Bool
  | .check _ | .write _ | .writeRet _ | .takeResp _ | .seeConnDone _ | .seeOwnDone _ | .finish _
  | .closeTransport _ | .closeCancel _
  | .wPoll | .wRead | .wLookup | .wDeliver | .wOffer | .wOfferCancel | .wNack | .wExit => true
  | _ => false

/-! ## the measure -/

def Pc.rank : Pc → Nat
  | .idle => 0
  | .registered => 7
  | .checked => 6
  | .wrote => 5
  | .waiting => 4
  | .leaving _ => 3
  | .closing _ => 2
  | .cancelling _ => 1
  | .done _ => 0

/-- Watch goes round poll → reading → looking → delivering / offering / nacking → poll: the step from `reading` to
`looking` goes up by 3 and is paid for by the frame it takes off `inbound`, which `mu` weighs 4 -/
def WatchPc.rank : WatchPc → Nat
  | .poll => 3
  | .reading => 2
  | .looking _ => 5
  | .delivering _ _ => 4
  | .offering _ => 4
  | .nacking _ => 4
  | .exiting => 1
  | .returned => 0

def sumTo (f : Nat → Nat) : Nat → Nat
  | 0 => 0
  | n + 1 => sumTo f n + f n

theorem sumTo_congr (f g : Nat → Nat) (n : Nat) (h : ∀ i, i < n → f i = g i) : sumTo f n = sumTo g n := by
  induction n with
  | zero => rfl
  | succ n ih =>
    simp only [sumTo]
    rw [ih (fun i hi => h i (by omega)), h n (by omega)]

theorem sumTo_lower (f g : Nat → Nat) (n i : Nat) (hi : i < n) (hlt : g i < f i) (hoth : ∀ j, j ≠ i → g j = f j) :
    sumTo g n < sumTo f n := by
  induction n with
  | zero => omega
  | succ n ih =>
    simp only [sumTo]
    by_cases hin : i = n
    · subst hin
      have := sumTo_congr g f i (fun j hj => hoth j (by omega))
      omega
    · have := ih (by omega)
      have hn := hoth n (fun h => hin h.symm)
      omega

/-- work left for the goroutines among the first `n` table entries and in Watch -/
def mu (n : Nat) (s : State) : Nat :=
  sumTo (fun i => (s.callers i).pc.rank) n + 4 * s.inbound.length + s.watch.rank

/-- `n` bounds the calls that have been started -/
def Bounded (n : Nat) (s : State) : Prop := ∀ i, n ≤ i → (s.callers i).pc = .idle

theorem rank_upd_lt {n i : Nat} {f : Nat → Caller} {c : Caller} (hi : i < n) (hlt : c.pc.rank < (f i).pc.rank) :
    sumTo (fun j => (upd f i c j).pc.rank) n < sumTo (fun j => (f j).pc.rank) n :=
  sumTo_lower _ _ n i hi (by simpa using hlt) (fun j hj => by simp [hj])

theorem mu_setPc (n : Nat) (s : State) (i : Nat) (pc : Pc) (hb : Bounded n s) (hne : (s.callers i).pc ≠ .idle)
    (hlt : pc.rank < (s.callers i).pc.rank) :
    sumTo (fun j => ((setPc s i pc).callers j).pc.rank) n < sumTo (fun j => (s.callers j).pc.rank) n :=
  rank_upd_lt (Nat.lt_of_not_le fun h => hne (hb i h)) hlt

/-- a started call is among the first `n`, so a step of it to a `pc` of lower rank lowers the measure -/
theorem mu_caller_lt {n : Nat} {s s' : State} (hb : Bounded n s) (i : Nat) (c : Caller)
    (hc : s'.callers = upd s.callers i c) (hlt : c.pc.rank < (s.callers i).pc.rank)
    (hin : s'.inbound = s.inbound) (hw : s'.watch = s.watch) : mu n s' < mu n s := by
  have := rank_upd_lt (n := n) (Nat.lt_of_not_le fun h => by rw [hb i h] at hlt; exact Nat.not_lt_zero _ hlt) hlt
  unfold mu
  rw [hc, hin, hw]
  omega

theorem mu_watch_lt {n : Nat} {s s' : State} (hc : ∀ j, (s'.callers j).pc = (s.callers j).pc)
    (h : 4 * s'.inbound.length + s'.watch.rank < 4 * s.inbound.length + s.watch.rank) : mu n s' < mu n s := by
  have := sumTo_congr (fun j => (s'.callers j).pc.rank) (fun j => (s.callers j).pc.rank) n (fun j _ => by simp only [hc j])
  unfold mu
  omega

/-- **No livelock.**  Every goroutine step strictly decreases the measure (in any state satisfying the
teardown-safety invariant: the queue is closed only once Watch has returned). -/
theorem mu_decreases (n : Nat) (s s' : State) (l : Label) (hq : s.queueClosed = true → s.watch = .returned)
    (hb : Bounded n s) (hl : l.internal = true) (hs : Step s l s') : mu n s' < mu n s := by
  cases hs
  case wOfferPanic h1 h2 | wExitPanic h1 h2 => rw [hq h2] at h1; cases h1
  case wDeliver i p h1 h2 =>
    exact mu_watch_lt (fun j => upd_pc (by rfl) j) (by simp [h1, WatchPc.rank])
  case wPoll h1 => exact mu_watch_lt (fun _ => rfl) (by cases s.connDone <;> simp [h1, WatchPc.rank])
  all_goals first
    -- no goroutine's step
    | (cases hl; done)
    -- a caller's: the rank of its `pc` falls
    | exact mu_caller_lt hb _ _ rfl (by rw [‹(s.callers _).pc = _›]; simp [Pc.rank]) rfl rfl
    -- Watch's: its rank falls, or rises by 3 for a frame taken off `inbound`
    | exact mu_watch_lt (fun _ => rfl) (by simp only [*, WatchPc.rank, List.length_cons]; omega)

/-- goroutine steps start no call: the bound on started calls is kept -/
theorem bounded_step {n : Nat} {s s' : State} {l : Label} (hb : Bounded n s) (hl : l.internal = true) (hs : Step s l s') :
    Bounded n s' := by
  intro j hj
  refine Classical.byContradiction fun h => ?_
  rcases started_step hs j h with h | rfl
  · exact h (hb j hj)
  · cases hl

/-! ## the C05 environment: the peer answers requests (calls that expect a response), each once -/

def AdmissibleP (tbl : Nat → Caller) (l : Label) : Prop :=
  Admissible tbl l ∧ (match l with | .peerAnswer k => (tbl k).kind ≠ .send | _ => True)

inductive ReachP (tbl : Nat → Caller) : State → Prop where
  | init : ReachP tbl (init tbl)
  | step {s s' : State} (l : Label) : ReachP tbl s → AdmissibleP tbl l → step s l = some s' → ReachP tbl s'

theorem ReachP.reach {tbl : Nat → Caller} {s : State} (h : ReachP tbl s) : Reach tbl s := by
  induction h with
  | init => exact Reach.init
  | step l _ ha hs ih => exact Reach.step l ih ha.1 hs

/-- the environment restricts two labels only: the number of a PDU the peer originates, and whom the peer answers -/
theorem admissibleP_of {tbl : Nat → Caller} {l : Label} (hu : ∀ q k, l ≠ .peerUnsol q k)
    (ha : ∀ k, l = .peerAnswer k → (tbl k).kind ≠ .send) : AdmissibleP tbl l := by
  cases l <;> first | exact ⟨trivial, trivial⟩ | exact ⟨trivial, ha _ rfl⟩ | exact absurd rfl (hu _ _)

theorem internal_admissibleP (tbl) (l : Label) (hl : l.internal = true) : AdmissibleP tbl l :=
  admissibleP_of (by rintro q k rfl; cases hl) (by rintro k rfl; cases hl)

/-! ## runs of goroutine steps are finite -/

theorem run_cons {s s' : State} {l : Label} {ls : List Label} (h : run s (l :: ls) = some s') :
    ∃ s1, step s l = some s1 ∧ run s1 ls = some s' := by
  simp only [run] at h
  split at h
  · exact ⟨_, ‹_›, h⟩
  · cases h

theorem reachP_run (tbl) : ∀ (ls : List Label) (s s' : State), ReachP tbl s → (∀ l ∈ ls, AdmissibleP tbl l) →
    run s ls = some s' → ReachP tbl s' := by
  intro ls
  induction ls with
  | nil => intro s s' hr _ h; cases h; exact hr
  | cons l ls ih =>
    intro s s' hr ha h
    obtain ⟨s1, hs, h⟩ := run_cons h
    obtain ⟨hl, ha⟩ := List.forall_mem_cons.mp ha
    exact ih s1 s' (ReachP.step l hr hl hs) ha h

/-- **No livelock, quantitatively.**  From a reachable state with at most `n` calls started, ANY sequence of goroutine
steps has at most `mu n s` elements: the goroutines come to rest between environment events. -/
theorem internal_run_bound (tbl) (hd : Distinct tbl) (hf : Fresh tbl) (n : Nat) :
    ∀ (ls : List Label) (s s' : State), ReachP tbl s → Bounded n s → (∀ l ∈ ls, l.internal = true) →
      run s ls = some s' → ls.length + mu n s' ≤ mu n s ∧ ReachP tbl s' ∧ Bounded n s' := by
  intro ls
  induction ls with
  | nil =>
    intro s s' hr hb _ hrun
    cases hrun
    exact ⟨by simp, hr, hb⟩
  | cons l ls ih =>
    intro s s' hr hb hall hrun
    obtain ⟨s1, hst, hrun⟩ := run_cons hrun
    obtain ⟨hl, hall⟩ := List.forall_mem_cons.mp hall
    have hS := step_sound s s1 l hst
    have hdec := mu_decreases n s s1 l (inv3 tbl hd hf s hr.reach).qClosed hb hl hS
    obtain ⟨hlen, hr', hb'⟩ := ih s1 s' (ReachP.step l hr (internal_admissibleP tbl l hl) hst) (bounded_step hb hl hS) hall hrun
    exact ⟨by simp only [List.length_cons]; omega, hr', hb'⟩

/-! ## invariant 5: whose PDU is where, and why a call returned what it returned -/

def answerOf (tbl : Nat → Caller) (j : Nat) : InPdu := ⟨(tbl j).seq, .ans j⟩

/-- what explains the result `r` of call `i`: the guard under which it was decided -/
def Why (tbl : Nat → Caller) (s : State) (i : Nat) : Result → Prop
  | .resp _ => True
  | .sent => (tbl i).kind = .send
  | .err .invalidSeq => (tbl i).seq ≤ 0
  | .err .write => s.writeBroken = true
  | .err .closed => s.connDone = true
  | .err .ctx => (s.callers i).ownDone = true

structure Inv5 (tbl : Nat → Caller) (s : State) : Prop where
  heldKind : ∀ k p, heldFor s k p → (tbl k).kind ≠ .send
  origU : ∀ p, located s p → ∀ j, (tbl j).kind ≠ .send → p.seq = (tbl j).seq → p = answerOf tbl j
  why : ∀ i r, (s.callers i).pc.result? = some r → Why tbl s i r

theorem inv5_origU {tbl} (hd : Distinct tbl) {s s' : State} {l : Label} (ha : AdmissibleP tbl l) (h1 : Inv1 tbl s)
    (hi : Inv5 tbl s) (hs : Step s l s') :
    ∀ p, located s' p → ∀ j, (tbl j).kind ≠ .send → p.seq = (tbl j).seq → p = answerOf tbl j := by
  intro p hl j hk hq
  rcases located_step hs p hl with h | ⟨i, rfl, rfl⟩ | ⟨q, k, rfl, rfl⟩
  · exact hi.origU p h j hk hq
  · -- the peer's answer to call `i`: two calls that expect an answer do not share a number
    have hi' : i = j := Classical.byContradiction fun hne =>
      hd i j hne ha.2 hk (by rw [← h1.seq i]; exact hq)
    subst hi'
    simp [answerOf, h1.seq i]
  · exact absurd hq.symm (ha.1 j hk)

theorem Why.mono {tbl : Nat → Caller} {s s' : State} {l : Label} {i : Nat} {r : Result} (h : Why tbl s i r) (hs : Step s l s') :
    Why tbl s' i r := by
  cases r with
  | resp _ | sent => exact h
  | err e => cases e with
    | invalidSeq => exact h
    | write => exact writeBroken_mono hs h
    | closed => exact connDone_mono hs h
    | ctx => exact ownDone_mono hs i h

theorem inv5_why {tbl} {s s' : State} {l : Label} (h1 : Inv1 tbl s) (hi : Inv5 tbl s) (hs : Step s l s') :
    ∀ i r, (s'.callers i).pc.result? = some r → Why tbl s' i r := by
  intro j r hr
  by_cases hold : (s.callers j).pc.result? = some r
  · exact (hi.why j r hold).mono hs
  · -- this step decided the result: the guard it passed explains it
    cases hs
    case checkBad i _ hg | writeBroken i _ hg | writeRetSend i _ hg | seeConnDone i _ hg | seeOwnDone i _ hg =>
      obtain ⟨rfl, h⟩ := upd_pc_new (φ := (·.result? = some r)) hr hold
      cases h
      simpa [Why, setPc, ← h1.kind j, ← h1.seq j] using hg
    case takeResp =>
      obtain ⟨rfl, h⟩ := upd_pc_new (φ := (·.result? = some r)) hr hold
      cases h; trivial
    -- a call's other steps keep its result, or end where there is none yet
    all_goals first
      | exact absurd hr hold
      | exact absurd (of_upd_pc (φ := (·.result? = some r)) hr (by simp [*, Pc.result?])) hold

/-! ## invariant 6: the answer to a call exists exactly once from the moment the peer sends it -/

def watchHolds (s : State) (P : InPdu) : Nat :=
  match s.watch with
  | .looking p => if p = P then 1 else 0
  | .delivering _ p => if p = P then 1 else 0
  | _ => 0

/-- in how many places the PDU `P` destined for call `j` is: still unread, in Watch's hands, in the call's
response slot, returned by the call, or logged as having found no waiter -/
def cnt (s : State) (j : Nat) (P : InPdu) : Nat :=
  s.inbound.count (.ok P) + watchHolds s P + (if (s.callers j).box = some P then 1 else 0) +
    (if (s.callers j).pc.result? = some (.resp P) then 1 else 0) + s.missLog.count P

def Inv6 (tbl : Nat → Caller) (s : State) : Prop :=
  ∀ j, (tbl j).kind ≠ .send → cnt s j (answerOf tbl j) = if (s.callers j).answered = true then 1 else 0

theorem cnt_congr {s s' : State} {j : Nat} {P : InPdu} (hin : s'.inbound = s.inbound) (hw : s'.watch = s.watch)
    (hm : s'.missLog = s.missLog) (hb : (s'.callers j).box = (s.callers j).box)
    (hr : (s'.callers j).pc.result? = some (.resp P) ↔ (s.callers j).pc.result? = some (.resp P)) :
    cnt s' j P = cnt s j P := by
  simp only [cnt, watchHolds, hin, hw, hm, hb, hr]

theorem inv6_step {tbl} (hd : Distinct tbl) {s s' : State} {l : Label} (h1 : Inv1 tbl s)
    (h5 : Inv5 tbl s) (hi : Inv6 tbl s) (hs : Step s l s') : Inv6 tbl s' := by
  intro j hk
  have hj := hi j hk
  cases hs
  -- the peer sends the answer to call `i`: one more unread frame, for `i` alone
  case peerAnswer i _ hans =>
    simp only [cnt, watchHolds, upd_box, upd_pc, List.count_append, List.count_singleton, beq_iff_eq, InFrame.ok.injEq] at hj ⊢
    by_cases hji : j = i
    · subst hji
      simp only [upd_same, hans, answerOf, h1.seq j, ↓reduceIte, Bool.false_eq_true] at hj ⊢
      omega
    · simp only [upd_other _ _ _ _ hji, answerOf, InPdu.mk.injEq, Origin.ans.injEq, Ne.symm hji, and_false]
      exact hj
  case peerUnsol q k =>
    simp only [cnt, List.count_append, List.count_singleton, beq_iff_eq, InFrame.ok.injEq, answerOf, InPdu.mk.injEq,
      reduceCtorEq, and_false] at hj ⊢
    exact hj
  case wDeliver i p hw hb =>
    by_cases hji : j = i
    · subst hji
      simp only [cnt, watchHolds, upd_same, hw, hb, Option.some.injEq, reduceCtorEq, ↓reduceIte] at hj ⊢
      omega
    · -- delivered to another call: then it is not the answer to `j`, whose number differs
      have : p ≠ answerOf tbl j := by
        rintro rfl
        exact hd j i hji hk (h5.heldKind i _ (.inl hw)) (h1.watchSeq i _ hw)
      simp only [cnt, watchHolds, upd_other _ _ _ _ hji, hw, this] at hj ⊢
      exact hj
  case takeResp i p hpc hb =>
    by_cases hji : j = i
    · subst hji
      simp only [cnt, watchHolds, upd_same, hpc, hb, Pc.result?, Option.some.injEq, Result.resp.injEq, reduceCtorEq] at hj ⊢
      omega
    · simp only [cnt, upd_other _ _ _ _ hji] at hj ⊢
      exact hj
  case wPoll hw =>
    simp only [cnt, watchHolds, hw] at hj ⊢
    cases s.connDone <;> exact hj
  case deadline => simp only [cnt, upd_box, upd_pc, upd_answered]; exact hj
  -- a caller's other steps keep its slot and whether its result is `P`; Watch's other steps move a PDU from one summand
  -- to the next (unread → Watch → miss log) or leave all five as they are
  all_goals first
    | exact hj
    | (simp only [setPc]
       refine Eq.trans (cnt_congr (s := s) rfl rfl rfl ?_ ?_) ?_
       · simp only [upd_box]
       · exact upd_pc_iff (φ := (·.result? = _)) (by simp [*, Pc.result?])
       · simp only [upd_answered]; exact hj)
    | (simp only [cnt, watchHolds, List.count_append, List.count_cons, List.count_nil, beq_iff_eq, InFrame.ok.injEq,
        reduceCtorEq, ↓reduceIte, *] at hj ⊢
       omega)

theorem inv5_init (tbl) (hf : Fresh tbl) : Inv5 tbl (init tbl) := by
  refine ⟨?_, fun p hl => absurd hl (located_init tbl hf p), ?_⟩ <;> simp [heldFor, init, hf.pc, hf.box, Pc.result?]

theorem inv6_init (tbl) (hf : Fresh tbl) : Inv6 tbl (init tbl) := by
  intro j _
  simp [cnt, watchHolds, init, hf j, Pc.result?]

theorem inv56 (tbl) (hd : Distinct tbl) (hf : Fresh tbl) (s : State) (h : ReachP tbl s) : Inv5 tbl s ∧ Inv6 tbl s := by
  induction h with
  | init => exact ⟨inv5_init tbl hf, inv6_init tbl hf⟩
  | @step s s' l hr ha hs ih =>
    have h1 := inv1 tbl hd hf s hr.reach
    have hS := step_sound s s' l hs
    exact ⟨⟨fun k p h => (heldFor_step hS k p h).elim (ih.1.heldKind k p) fun h => (h1.pendSound _ k h.2).2.1,
        inv5_origU hd ha h1 ih.1 hS, inv5_why h1 ih.1 hS⟩, inv6_step hd h1 ih.1 ih.2 hS⟩

/-! ## quiescent states: no goroutine step is enabled -/

def Quiescent (s : State) : Prop := ∀ l : Label, l.internal = true → step s l = none

/-- where a call can be when nothing moves: not started, returned, or waiting with an empty slot and both contexts live -/
theorem quiescent_pc (s : State) (hq : Quiescent s) (i : Nat) :
    (s.callers i).pc = .idle ∨ (∃ r, (s.callers i).pc = .done r) ∨
    ((s.callers i).pc = .waiting ∧ (s.callers i).box = none ∧ s.connDone = false ∧ (s.callers i).ownDone = false) := by
  cases hpc : (s.callers i).pc with
  | idle => exact Or.inl rfl
  | done r => exact Or.inr (Or.inl ⟨r, rfl⟩)
  | registered => have := hq (.check i) rfl; simp [step, hpc] at this
  | checked => have := hq (.write i) rfl; simp only [step, hpc, ↓reduceIte] at this; split at this <;> simp at this
  | wrote => have := hq (.writeRet i) rfl; simp [step, hpc] at this
  | leaving r => have := hq (.finish i) rfl; simp [step, hpc] at this
  | closing r => have := hq (.closeTransport i) rfl; simp [step, hpc] at this
  | cancelling r => have := hq (.closeCancel i) rfl; simp [step, hpc] at this
  | waiting =>
    refine Or.inr (Or.inr ⟨rfl, ?_, ?_, ?_⟩)
    · cases hb : (s.callers i).box with
      | none => rfl
      | some p => have := hq (.takeResp i) rfl; simp [step, hpc, hb] at this
    · cases hc : s.connDone with
      | false => rfl
      | true => have := hq (.seeConnDone i) rfl; simp [step, hpc, hc] at this
    · cases hc : (s.callers i).ownDone with
      | false => rfl
      | true => have := hq (.seeOwnDone i) rfl; simp [step, hpc, hc] at this

/-- where Watch can be when nothing moves -/
theorem quiescent_watch (s : State) (hq : Quiescent s) :
    s.watch = .returned ∨ (s.watch = .reading ∧ s.inbound = [] ∧ s.readSide = .open) ∨
    (∃ k p q, s.watch = .delivering k p ∧ (s.callers k).box = some q) ∨
    (∃ p, s.watch = .offering p ∧ s.draining = false ∧ s.connDone = false) := by
  cases hw : s.watch with
  | returned => exact Or.inl rfl
  | poll => have := hq .wPoll rfl; simp [step, hw] at this
  | looking p => have := hq .wLookup rfl; simp [step, hw] at this
  | nacking q => have := hq .wNack rfl; simp [step, hw] at this
  | exiting => have := hq .wExit rfl; simp [step, hw] at this
  | reading =>
    have := hq .wRead rfl
    simp only [step, hw] at this
    cases hin : s.inbound with
    | cons f rest => simp [hin] at this
    | nil =>
      simp only [hin] at this
      cases hr : s.readSide with
      | «open» => exact Or.inr (Or.inl ⟨rfl, rfl, rfl⟩)
      | eof | err => simp [hr] at this
  | delivering k p =>
    cases hb : (s.callers k).box with
    | none => have := hq .wDeliver rfl; simp [step, hw, hb] at this
    | some q => exact Or.inr (Or.inr (Or.inl ⟨k, p, q, rfl, hb⟩))
  | offering p =>
    have h1 := hq .wOffer rfl
    have h2 := hq .wOfferCancel rfl
    simp only [step, hw] at h1 h2
    cases hc : s.connDone with
    | true => simp [hc] at h2
    | false =>
      cases hd : s.draining with
      | false => exact Or.inr (Or.inr (Or.inr ⟨p, rfl, rfl, rfl⟩))
      | true =>
        cases hqc : s.queueClosed <;> simp [hqc, hd] at h1

/-- nothing moves once every call is not started or returned and Watch has returned or is parked in Read on an open idle
transport (the converse of what `teardown_quiescent` concludes) -/
theorem quiescent_of (s : State) (hpc : ∀ j, (s.callers j).pc = .idle ∨ ∃ r, (s.callers j).pc = .done r)
    (hw : s.watch = .returned ∨ (s.watch = .reading ∧ s.inbound = [] ∧ s.readSide = .open)) : Quiescent s := by
  intro l hl
  cases l with
  | check i | write i | writeRet i | takeResp i | seeConnDone i | seeOwnDone i | finish i | closeTransport i | closeCancel i =>
    rcases hpc i with h | ⟨r, h⟩ <;> simp [step, h]
  | wPoll | wRead | wLookup | wDeliver | wOffer | wOfferCancel | wNack | wExit =>
    rcases hw with hw | ⟨hw, hin, hr⟩ <;> simp [step, *]
  | _ => simp [Label.internal] at hl

/-- a state at rest: Watch parked in Read on an open idle transport, every call not started or returned -/
theorem quiescent_of_rest (s : State) (hw : s.watch = .reading) (hin : s.inbound = []) (hr : s.readSide = .open)
    (hpc : ∀ j, (s.callers j).pc = .idle ∨ ∃ r, (s.callers j).pc = .done r) : Quiescent s :=
  quiescent_of s hpc (.inr ⟨hw, hin, hr⟩)

/-- a state at rest after teardown: Watch returned, every call not started or returned -/
theorem quiescent_of_returned (s : State) (hw : s.watch = .returned)
    (hpc : ∀ j, (s.callers j).pc = .idle ∨ ∃ r, (s.callers j).pc = .done r) : Quiescent s :=
  quiescent_of s hpc (.inl hw)

/-- the premise of `quiescent_of` about the calls, when one call has returned and no other was started -/
theorem idle_or_done_of {s : State} {k : Nat} {r : Result} (hk : (s.callers k).pc = .done r)
    (hidle : ∀ j, j ≠ k → (s.callers j).pc = .idle) (j : Nat) : (s.callers j).pc = .idle ∨ ∃ r, (s.callers j).pc = .done r :=
  if e : j = k then .inr ⟨r, e ▸ hk⟩ else .inl (hidle j e)

theorem held_answer {tbl : Nat → Caller} {s : State} (h1 : Inv1 tbl s) (h5 : Inv5 tbl s) {i : Nat} {p : InPdu}
    (h : heldFor s i p) : p = answerOf tbl i :=
  h5.origU p h.located i (h5.heldKind i p h) (h1.heldSeq h)

/-- Watch is never stuck handing a response to a call whose slot is still full: that would be two copies of one answer -/
theorem no_double_delivery (tbl) (hd : Distinct tbl) (hf : Fresh tbl) (s : State) (hr : ReachP tbl s)
    (k : Nat) (p q : InPdu) (hw : s.watch = .delivering k p) (hb : (s.callers k).box = some q) : False := by
  have h1 := inv1 tbl hd hf s hr.reach
  obtain ⟨h5, h6⟩ := inv56 tbl hd hf s hr
  have hc := h6 k (h5.heldKind k p (.inl hw))
  rw [held_answer h1 h5 (.inl hw)] at hw
  rw [held_answer h1 h5 (.inr (.inl hb))] at hb
  have : 2 ≤ cnt s k (answerOf tbl k) := by
    unfold cnt watchHolds
    simp only [hw, hb, ↓reduceIte]
    omega
  split at hc <;> omega

/-- `quiescent_watch` for a reachable state, where Watch is not stuck delivering -/
theorem watch_at_rest (tbl) (hd : Distinct tbl) (hf : Fresh tbl) (s : State) (hr : ReachP tbl s) (hq : Quiescent s) :
    s.watch = .returned ∨ (s.watch = .reading ∧ s.inbound = [] ∧ s.readSide = .open) ∨
    ∃ p, s.watch = .offering p ∧ s.draining = false ∧ s.connDone = false :=
  (quiescent_watch s hq).imp_right fun h => h.imp_right fun h =>
    h.resolve_left fun ⟨k, p, q, hw, hb⟩ => no_double_delivery tbl hd hf s hr k p q hw hb

theorem reading_at_rest (tbl) (hd : Distinct tbl) (hf : Fresh tbl) (s : State) (hr : ReachP tbl s) (hq : Quiescent s)
    (hconn : s.connDone = false) (hdrain : s.draining = true) : s.watch = .reading ∧ s.inbound = [] := by
  rcases watch_at_rest tbl hd hf s hr hq with hw | ⟨hw, hin, _⟩ | ⟨p, _, hdr, _⟩
  · have := ((inv3 tbl hd hf s hr.reach).watchDone hw).1
    rw [hconn] at this; cases this
  · exact ⟨hw, hin⟩
  · rw [hdrain] at hdr; cases hdr

/-! ## the progress theorems: what holds in a state at rest -/

/-- a Submit that has returned while the connection and its own context are live returned its own response, or failed at
the sequence check or at the write -/
theorem returned_live (tbl) (s : State) (h1 : Inv1 tbl s) (h5 : Inv5 tbl s) (i : Nat) (hkind : (tbl i).kind = .submit)
    (r : Result) (hpc : (s.callers i).pc = .done r) (hconn : s.connDone = false) (hown : (s.callers i).ownDone = false) :
    r = .resp (answerOf tbl i) ∨ (r = .err .invalidSeq ∧ (tbl i).seq ≤ 0) ∨ (r = .err .write ∧ s.writeBroken = true) := by
  have hr : (s.callers i).pc.result? = some r := by rw [hpc]; rfl
  have hw := h5.why i r hr
  rcases r with p | _ | e
  · exact .inl (congrArg _ (held_answer h1 h5 (.inr (.inr hr))))
  · rw [Why, hkind] at hw; cases hw
  · cases e with
    | invalidSeq => exact .inr (.inl ⟨rfl, hw⟩)
    | write => exact .inr (.inr ⟨rfl, hw⟩)
    | closed => rw [Why, hconn] at hw; cases hw
    | ctx => rw [Why, hown] at hw; cases hw

/-- **An answered Submit has returned its own response** in every state where nothing moves any more, as long as
neither context is done and the application is draining. -/
theorem answered_returns (tbl) (hd : Distinct tbl) (hf : Fresh tbl) (s : State) (hr : ReachP tbl s) (hq : Quiescent s)
    (i : Nat) (hkind : (tbl i).kind = .submit) (hans : (s.callers i).answered = true)
    (hconn : s.connDone = false) (hown : (s.callers i).ownDone = false) (hdrain : s.draining = true) :
    (s.callers i).pc = .done (.resp (answerOf tbl i)) := by
  obtain ⟨h1, h2, h3, _⟩ := inv_all tbl hd hf s hr.reach
  obtain ⟨h5, h6⟩ := inv56 tbl hd hf s hr
  have hk : (tbl i).kind ≠ .send := by simp [hkind]
  have hpw : (s.callers i).pc.pastWrite = true := (h2.wireSeq i _ (h2.answeredWire i hans)).2
  rcases quiescent_pc s hq i with hpc | ⟨r, hpc⟩ | ⟨hpc, hbox, _, _⟩
  · simp [hpc, Pc.pastWrite] at hpw
  · rcases returned_live tbl s h1 h5 i hkind r hpc hconn hown with rfl | ⟨rfl, _⟩ | ⟨rfl, _⟩
    · exact hpc
    · simp [hpc, Pc.pastWrite, Result.afterWrite] at hpw
    · simp [hpc, Pc.pastWrite, Result.afterWrite] at hpw
  · -- still waiting with an empty slot, and Watch parked with nothing unread: the one copy of the answer is in the miss
    -- log, where the answer to a call that is still registered never is
    obtain ⟨hw, hin⟩ := reading_at_rest tbl hd hf s hr hq hconn hdrain
    have hc := h6 i hk
    simp only [cnt, watchHolds, hans, hw, hin, hbox, hpc, Pc.result?, List.count_nil, reduceCtorEq, ↓reduceIte] at hc
    have := h3.noLeak (answerOf tbl i) i (List.count_pos_iff.mp (by omega)) rfl hk
    simp [hpc, Pc.departed] at this

/-- **Before the answer comes, a started Submit is waiting with its request at the peer** (so the peer can answer:
the step `peerAnswer i` is enabled), in every state where nothing moves any more. -/
theorem unanswered_waits (tbl) (hd : Distinct tbl) (hf : Fresh tbl) (s : State) (hr : ReachP tbl s) (hq : Quiescent s)
    (i : Nat) (hkind : (tbl i).kind = .submit) (hstarted : (s.callers i).pc ≠ .idle) (hpos : 0 < (tbl i).seq)
    (hans : (s.callers i).answered = false)
    (hconn : s.connDone = false) (hown : (s.callers i).ownDone = false) (hwb : s.writeBroken = false) :
    (s.callers i).pc = .waiting ∧ (step s (.peerAnswer i)).isSome = true := by
  obtain ⟨h1, h2, _, _⟩ := inv_all tbl hd hf s hr.reach
  have h5 := (inv56 tbl hd hf s hr).1
  rcases quiescent_pc s hq i with hpc | ⟨r, hpc⟩ | ⟨hpc, _, _, _⟩
  · exact absurd hpc hstarted
  · exfalso
    rcases returned_live tbl s h1 h5 i hkind r hpc hconn hown with rfl | ⟨-, h⟩ | ⟨-, h⟩
    · -- it returned the answer, so there was one
      have := (h2.origin _ i (heldFor.located (i := i) (.inr (.inr (by rw [hpc]; rfl)))) rfl).2
      rw [hans] at this; cases this
    · omega
    · rw [hwb] at h; cases h
  · refine ⟨hpc, ?_⟩
    have hwire := h2.pastWriteWire i (by simp [hpc, Pc.pastWrite])
    simp [step, h1.seq i, hwire, hans]

/-- **After teardown every started call has returned** and Watch has returned or is parked in Read on a transport
that is still open with nothing to read, in every state where nothing moves any more. -/
theorem teardown_quiescent (tbl) (hd : Distinct tbl) (hf : Fresh tbl) (s : State) (hr : ReachP tbl s) (hq : Quiescent s)
    (hconn : s.connDone = true) :
    (∀ i, (s.callers i).pc = .idle ∨ ∃ r, (s.callers i).pc = .done r) ∧
    (s.watch = .returned ∨ (s.watch = .reading ∧ s.inbound = [] ∧ s.readSide = .open)) := by
  constructor
  · intro i
    rcases quiescent_pc s hq i with hpc | hpc | ⟨_, _, hc, _⟩
    · exact Or.inl hpc
    · exact Or.inr hpc
    · rw [hconn] at hc; cases hc
  · rcases watch_at_rest tbl hd hf s hr hq with hw | hw | ⟨p, _, _, hc⟩
    · exact Or.inl hw
    · exact Or.inr hw
    · rw [hconn] at hc; cases hc

/-! ## from a calm state an answered Submit completes on goroutine steps alone -/

/-- the C05 environment as a state predicate: connection live, transport open, nothing fatal queued, Watch in its loop,
application draining, no Close call anywhere -/
def Calm (s : State) : Prop :=
  s.connDone = false ∧ s.readSide = .open ∧ InFrame.fatal ∉ s.inbound ∧ s.watch ≠ .exiting ∧ s.watch ≠ .returned ∧
  s.draining = true ∧ ∀ j, (s.callers j).kind ≠ .close ∧ (∀ r, (s.callers j).pc ≠ .closing r) ∧ (∀ r, (s.callers j).pc ≠ .cancelling r)

theorem calm_step {s s' : State} {l : Label} (hc : Calm s) (hl : l.internal = true) (hs : Step s l s') : Calm s' := by
  obtain ⟨hlive, hopen, hfatal, hex, hret, hdrain, hcalls⟩ := hc
  cases hs
  -- steps that a calm state does not enable
  case wReadFatal hin => exact absurd (hin ▸ List.mem_cons_self) hfatal
  case wReadEnd ho => exact absurd hopen ho
  case wOfferCancel hcd => rw [hlive] at hcd; cases hcd
  case wExitPanic hw _ | wExit hw _ => exact absurd hw hex
  case finishClose i _ _ hk => exact absurd hk (hcalls i).1
  case closeTransportOk i _ hpc | closeTransportSkip i _ hpc _ => exact absurd hpc ((hcalls i).2.1 _)
  case closeCancel i _ hpc => exact absurd hpc ((hcalls i).2.2 _)
  -- Watch goes round its loop
  case wPoll => exact ⟨hlive, hopen, hfatal, by simp [hlive], by simp [hlive], hdrain, hcalls⟩
  case wReadOk hin | wReadBad hin =>
    exact ⟨hlive, hopen, fun h => hfatal (hin ▸ List.mem_cons_of_mem _ h), nofun, nofun, hdrain, hcalls⟩
  case wLookupHit | wLookupMiss | wOffer | wNackSkip | wNackSend => exact ⟨hlive, hopen, hfatal, nofun, nofun, hdrain, hcalls⟩
  case wOfferPanic => exact ⟨hlive, hopen, hfatal, hex, hret, hdrain, hcalls⟩
  case wDeliver => exact ⟨hlive, hopen, hfatal, nofun, nofun, hdrain, fun j => by simp only [upd_kind, upd_pc]; exact hcalls j⟩
  -- what is left is no goroutine's step, or a caller's: it keeps the flags and Watch, and the three clauses about every call
  -- are clauses about its new `pc`
  all_goals first
    | (cases hl; done)
    | exact ⟨hlive, hopen, hfatal, hex, hret, hdrain, fun j => ⟨by simp only [setPc, upd_kind]; exact (hcalls j).1,
        fun r => upd_pc_of (φ := (· ≠ .closing r)) ((hcalls j).2.1 r) fun _ => nofun,
        fun r => upd_pc_of (φ := (· ≠ .cancelling r)) ((hcalls j).2.2 r) fun _ => nofun⟩⟩

theorem ownDone_step {s s' : State} {l : Label} (hl : l.internal = true) (hs : Step s l s') (i : Nat) :
    (s'.callers i).ownDone = (s.callers i).ownDone := by
  cases hs <;> first
    | (cases hl; done)
    | simp only [setPc, upd_ownDone]

/-- **Completion is always within reach, by goroutine steps alone.**  From every reachable calm state in which the peer has
sent the answer to Submit call `i` and `i`'s context is live, some finite sequence of goroutine steps — no further event from the
peer, the application or a timer — ends with `i` having returned exactly its own response.  (With `internal_run_bound`: every
sequence of goroutine steps is finite, and by `answered_returns` every maximal one ends there.) -/
theorem completion_reachable (tbl) (hd : Distinct tbl) (hf : Fresh tbl) (n : Nat) (i : Nat) (hkind : (tbl i).kind = .submit)
    (s : State) (hr : ReachP tbl s) (hb : Bounded n s) (hc : Calm s) (hans : (s.callers i).answered = true)
    (hown : (s.callers i).ownDone = false) :
    ∃ ls s', (∀ l ∈ ls, l.internal = true) ∧ run s ls = some s' ∧ (s'.callers i).pc = .done (.resp (answerOf tbl i)) := by
  induction hm : mu n s using Nat.strongRecOn generalizing s with
  | _ m ih =>
    by_cases hq : Quiescent s
    · have ⟨hlive, _, _, _, _, hdrain, _⟩ := hc
      exact ⟨[], s, by simp, rfl, answered_returns tbl hd hf s hr hq i hkind hans hlive hown hdrain⟩
    · -- some goroutine step is enabled: take it
      obtain ⟨l, hl, s1, hs1⟩ : ∃ l : Label, l.internal = true ∧ ∃ s1, step s l = some s1 := by
        simpa [Quiescent, Option.ne_none_iff_exists'] using hq
      have hS := step_sound s s1 l hs1
      have hdec := mu_decreases n s s1 l (inv3 tbl hd hf s hr.reach).qClosed hb hl hS
      obtain ⟨ls, s', hall, hrun, hdone⟩ :=
        ih (mu n s1) (by omega) s1 (ReachP.step l hr (internal_admissibleP tbl l hl) hs1) (bounded_step hb hl hS)
          (calm_step hc hl hS) (answered_mono hS i hans) (by rw [ownDone_step hl hS]; exact hown) rfl
      exact ⟨l :: ls, s', List.forall_mem_cons.mpr ⟨hl, hall⟩, by simpa only [run, hs1] using hrun, hdone⟩

/-! ## a Send call does not wait (for C14) -/

/-- a Send call is never in Submit's final select -/
def InvSend (tbl : Nat → Caller) (s : State) : Prop := ∀ i, (tbl i).kind = .send → (s.callers i).pc ≠ .waiting

theorem invSend_step {tbl} {s s' : State} {l : Label} (h1 : Inv1 tbl s) (hi : InvSend tbl s) (hs : Step s l s') :
    InvSend tbl s' := by
  intro j hk
  cases hs
  case writeRetWait i _ hk' =>
    by_cases hj : j = i
    · rw [hj, ← h1.kind i] at hk; exact absurd hk hk'
    · simp only [setPc, upd_other _ _ _ _ hj]; exact hi j hk
  all_goals first
    | exact hi j hk
    | exact upd_pc_of (φ := (· ≠ .waiting)) (hi j hk) (by simp)

theorem invSend (tbl) (hd : Distinct tbl) (hf : Fresh tbl) (s : State) (h : Reach tbl s) : InvSend tbl s := by
  induction h with
  | init => intro i _; simp [init, hf.pc]
  | @step s s' l hr ha hs ih => exact invSend_step (inv1 tbl hd hf s hr) ih (step_sound s s' l hs)

end Smpp.Conn

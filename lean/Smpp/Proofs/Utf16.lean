/-
UTF-16 big-endian: decoding the code units of a scalar value returns it, whatever follows
(`decUcs2_utf16be`; for whole texts, `C17_utf16_roundtrip`).
-/
import Smpp.Model.Coding
import Smpp.Proofs.Bytes

namespace Smpp.Coding

theorem unit_bytes (u : Nat) (hu : u < 65536) :
    (UInt8.ofNat (u / 256)).toNat * 256 + (UInt8.ofNat (u % 256)).toNat = u := by
  rw [u8_ofNat_toNat (by omega), u8_ofNat_toNat (by omega)]
  omega

theorem decUcs2_bmp (u : Nat) (rest : List UInt8) (hu : u < 65536) (hns : u < 55296 ∨ 57344 ≤ u) :
    decUcs2 (UInt8.ofNat (u / 256) :: UInt8.ofNat (u % 256) :: rest) = u :: decUcs2 rest := by
  rw [decUcs2.eq_def]
  simp only [unit_bytes u hu]
  have c1 : (decide (55296 ≤ u) && decide (u < 57344)) = false := by
    simp only [Bool.and_eq_false_iff, decide_eq_false_iff_not]; omega
  simp only [c1, Bool.false_eq_true, ↓reduceIte]

theorem decUcs2_pair (hi lo : Nat) (rest : List UInt8) (hhi : 55296 ≤ hi ∧ hi < 56320)
    (hlo : 56320 ≤ lo ∧ lo < 57344) :
    decUcs2 (UInt8.ofNat (hi / 256) :: UInt8.ofNat (hi % 256) :: UInt8.ofNat (lo / 256) :: UInt8.ofNat (lo % 256) :: rest)
      = (65536 + (hi - 55296) * 1024 + (lo - 56320)) :: decUcs2 rest := by
  rw [decUcs2.eq_def]
  simp only [unit_bytes hi (by omega), unit_bytes lo (by omega)]
  have c1 : (decide (55296 ≤ hi) && decide (hi < 57344)) = true := by
    simp only [Bool.and_eq_true, decide_eq_true_eq]; omega
  have c2 : (decide (56320 ≤ lo) && decide (lo < 57344)) = true := by
    simp only [Bool.and_eq_true, decide_eq_true_eq]; omega
  simp only [c1, c2, ↓reduceIte, if_pos hhi.2]

/-- beyond the BMP the two code units are a high and a low surrogate, and determine the scalar value -/
theorem surrogates (r : Nat) (h : 65536 ≤ r) (hs : r < 0x110000) :
    55296 ≤ hiSur r ∧ hiSur r < 56320 ∧ 56320 ≤ loSur r ∧ loSur r < 57344 ∧
      r = 65536 + (hiSur r - 55296) * 1024 + (loSur r - 56320) := by
  unfold hiSur loSur
  omega

theorem decUcs2_utf16be (r : Nat) (rest : List UInt8) (hs : isScalar r = true) :
    decUcs2 (utf16be r ++ rest) = r :: decUcs2 rest := by
  simp only [isScalar, Bool.or_eq_true, Bool.and_eq_true, decide_eq_true_eq] at hs
  unfold utf16be
  split
  · exact decUcs2_bmp r rest ‹_› (by omega)
  · obtain ⟨h1, h2, h3, h4, e⟩ := surrogates r (by omega) (by omega)
    exact (decUcs2_pair (hiSur r) (loSur r) rest ⟨h1, h2⟩ ⟨h3, h4⟩).trans (by rw [← e])

theorem utf16be_length (r : Nat) : (utf16be r).length = if r < 65536 then 2 else 4 := by
  unfold utf16be; split <;> rfl

end Smpp.Coding

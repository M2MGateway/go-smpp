/-
Marshal followed by ReadPDU: the top-level round trip (C01), from which the
stability of re-encoding (C13) also follows.
-/
import Smpp.Proofs.Fields
import Smpp.Proofs.Framing

namespace Smpp.Pdu

/-! ### Marshal, as an equation

What Marshal writes after the header is `encBody`; the frame is the header stating the frame's
length, then that body.  (The length patch `data[0:4]` always finds its four octets.) -/

theorem setLen_encHeader (n : Nat) (h : Header) (r : Bytes) :
    setLen n (encHeader h ++ r) = encHeader { h with len := UInt32.ofNat n } ++ r := rfl

/-- The octets after the header and the values left behind: none and unchanged for a PDU that
carries a non-zero status, Marshal's loop otherwise. -/
def encBody (L : Layout) (h : Header) (rest : List FVal) : Except Err (Bytes × List FVal) :=
  if h.status != 0 then .ok ([], rest)
  else encFields L.isReplace (udhiOf L.fields (.header h :: rest)) rest

theorem marshal_header (L : Layout) (h : Header) (rest : List FVal) :
    marshal L (.header h :: rest) =
      if h.seqPos then
        match encBody L h rest with
        | .ok (body, rest') =>
          ⟨.ok (encHeader ⟨UInt32.ofNat (16 + body.length), UInt32.ofNat L.id, h.status, h.seq⟩ ++ body),
            .header ⟨h.len, UInt32.ofNat L.id, h.status, h.seq⟩ :: rest'⟩
        | .error e => ⟨.err e, .header ⟨h.len, UInt32.ofNat L.id, h.status, h.seq⟩ :: rest⟩
      else ⟨.err .invalidSeq, .header ⟨h.len, UInt32.ofNat L.id, h.status, h.seq⟩ :: rest⟩ := by
  simp only [marshal, encBody]
  cases h.seqPos
  · rfl
  · simp only [Bool.not_true, Bool.false_eq_true, ↓reduceIte]
    split
    · rfl
    · rcases encFields L.isReplace (udhiOf L.fields (.header h :: rest)) rest with e | ⟨body, rest'⟩
      · rfl
      · have h4 : ¬ (16 + body.length < 4) := by omega
        simp only [h4, ↓reduceIte, setLen_encHeader, List.length_append, encHeader_length]

theorem marshal_cases (L : Layout) (v : List FVal) :
    (∃ h rest, v = .header h :: rest) ∨ marshal L v = ⟨.err .invalidSeq, v⟩ := by
  unfold marshal
  split
  · exact .inl ⟨_, _, rfl⟩
  · exact .inr rfl

theorem marshal_ok_iff {L : Layout} {h : Header} {rest : List FVal} {b : Bytes} {after : List FVal} :
    marshal L (.header h :: rest) = ⟨.ok b, after⟩ ↔
      h.seqPos = true ∧ ∃ body rest', encBody L h rest = .ok (body, rest') ∧
        b = encHeader ⟨UInt32.ofNat (16 + body.length), UInt32.ofNat L.id, h.status, h.seq⟩ ++ body ∧
        after = .header ⟨h.len, UInt32.ofNat L.id, h.status, h.seq⟩ :: rest' := by
  rw [marshal_header]
  cases h.seqPos
  · simp
  · rcases encBody L h rest with e | ⟨body, rest'⟩
    · simp
    · simp [and_assoc, eq_comm (a := b), eq_comm (a := after)]

theorem decHeaderChecked_enc (hdr : Header) (r : Bytes) :
    decHeaderChecked (encHeader hdr ++ r) =
      if hdr.len.toNat < 16 ∨ hdr.len.toNat > 65536 then none else some (hdr, r) := by
  simp only [decHeaderChecked, decHeader_enc, Bool.or_eq_true, decide_eq_true_eq]

theorem unmarshal_eq {L : Layout} {f : Field} {fs : List Field} (hf : L.fields = f :: fs)
    (hfk : f.kind = .header) (b : Bytes) :
    unmarshal L b =
      match decHeaderChecked b with
      | none => none
      | some (h, r) =>
        if h.status != 0 then some (.header h :: fs.map (fun g => zeroVal g.kind))
        else (decFields L.isReplace false fs r).map (.header h :: ·) := by
  rw [unmarshal, hf, decFields, if_pos hfk]
  rcases decHeaderChecked b with _ | ⟨h, r⟩
  · rfl
  · simp only
    split
    · rfl
    · cases decFields L.isReplace false fs r <;> rfl

theorem unmarshal_header {L : Layout} (hL : LayoutOK L = true) {hdr h : Header} {body : Bytes} {rest : List FVal}
    (hun : unmarshal L (encHeader hdr ++ body) = some (.header h :: rest)) : h = hdr := by
  obtain ⟨g, gs, hf, hgk, _⟩ := LayoutOK_iff.mp hL
  rw [unmarshal_eq hf hgk, decHeaderChecked_enc] at hun
  by_cases hbad : hdr.len.toNat < 16 ∨ hdr.len.toNat > 65536
  · rw [if_pos hbad] at hun; cases hun
  · simp only [if_neg hbad] at hun
    split at hun
    · cases hun; rfl
    · obtain ⟨_, _, hh⟩ := Option.map_eq_some_iff.mp hun; cases hh; rfl

/-- What ReadPDU returns for a frame Marshal produced from `after` (the struct as Marshal left it). -/
def decodedOf (L : Layout) (n : Nat) (after : List FVal) : List FVal :=
  match after with
  | .header h' :: rest' =>
    let hd := FVal.header { h' with len := UInt32.ofNat n }
    if h'.status != 0 then hd :: L.fields.tail.map (fun g => zeroVal g.kind)
    else hd :: rest'.map normVal
  | _ => []

/-- A PDU with a non-zero status carries no body, so nothing is asked of its fields then. -/
theorem unmarshal_marshal (L : Layout) (hL : LayoutOK L = true) (h : Header) (rest : List FVal)
    (hty : Typed L.fields (.header h :: rest) = true)
    (hwf : h.status = 0 → ∀ x ∈ rest, FValWF L.isReplace (udhiOf L.fields (.header h :: rest)) x)
    (b : Bytes) (after : List FVal) (hm : marshal L (.header h :: rest) = ⟨.ok b, after⟩)
    (hlen : b.length ≤ 65536) :
    unmarshal L b = some (decodedOf L b.length after) := by
  obtain ⟨f, fs, hf, hfk, hfn, hnh, htl, hesm, _⟩ := LayoutOK_iff.mp hL
  obtain ⟨_, body, rest', he, rfl, rfl⟩ := marshal_ok_iff.mp hm
  rw [List.length_append, encHeader_length] at hlen ⊢
  have hl : (UInt32.ofNat (16 + body.length)).toNat = 16 + body.length :=
    UInt32.toNat_ofNat_of_lt' (show _ < 4294967296 by omega)
  rw [unmarshal_eq hf hfk, decHeaderChecked_enc, if_neg (by rw [hl]; omega)]
  simp only [decodedOf, hf, List.tail_cons]
  unfold encBody at he
  split at he
  · next hst => simp only [hst, ↓reduceIte]
  · next hst =>
    have hwf := hwf (by simpa using hst)
    simp only [hst]
    rw [hf, udhiOf_cons_ne f fs _ rest hfn] at he hwf
    rw [hf] at hty
    rw [decFields_enc L.isReplace _ fs rest false body rest' (Bool.and_eq_true_iff.mp hty).2 hwf htl hnh hesm
      (udhiFinal_false fs rest) he]
    rfl

/-- A registry with pairwise distinct command_ids finds each of its layouts. -/
theorem lookupLayout_mem {layouts : List Layout} (hnd : (layouts.map (·.id)).Nodup) {L : Layout}
    (hL : L ∈ layouts) : lookupLayout layouts L.id = some L := by
  induction layouts with
  | nil => cases hL
  | cons M ls ih =>
    obtain ⟨hM, hnd'⟩ := List.nodup_cons.mp hnd
    rcases List.mem_cons.mp hL with rfl | hL
    · simp [lookupLayout]
    · have hne : M.id ≠ L.id := fun h => hM (List.mem_map.mpr ⟨L, hL, h.symm⟩)
      simpa [lookupLayout, hne] using ih hnd' hL

theorem readPDU_of_unmarshal (layouts : List Layout) (L : Layout) (hL : LayoutOK L = true)
    (hreg : lookupLayout layouts L.id = some L) (v : List FVal) (b : Bytes) (after : List FVal)
    (hm : marshal L v = ⟨.ok b, after⟩) (hlen : b.length ≤ 65536) (w : List FVal) (hun : unmarshal L b = some w)
    (cs : Stream) (hcs : cs.flatten = b) :
    (readPDU layouts cs).out = .ok L.name w ∧ (readPDU layouts cs).consumed = b.length := by
  obtain ⟨_, _, _, _, _, _, _, _, hid⟩ := LayoutOK_iff.mp hL
  rcases marshal_cases L v with ⟨h, rest, rfl⟩ | hv
  · obtain ⟨_, body, _, _, rfl, _⟩ := marshal_ok_iff.mp hm
    rw [List.length_append, encHeader_length] at hlen
    -- what Marshal wrote is a well-framed PDU that the registry knows
    obtain ⟨ho, hc, _⟩ := readPDU_framed layouts
      ⟨⟨.ofNat (16 + body.length), .ofNat L.id, h.status, h.seq⟩, body⟩
      ⟨UInt32.toNat_ofNat_of_lt' (show _ < 4294967296 by omega), hlen⟩ cs [] (by rw [hcs, List.append_nil]; rfl)
    refine ⟨ho.trans ?_, hc⟩
    simp only [Frame.result, UInt32.toNat_ofNat_of_lt' hid, hreg, Frame.bytes, hun]
  · rw [hv] at hm; cases hm

/-- Marshal → ReadPDU on any fragmentation (the core of C01, with the well-formedness spelled out). -/
theorem readPDU_marshal (layouts : List Layout) (L : Layout) (hL : LayoutOK L = true)
    (hreg : lookupLayout layouts L.id = some L) (h : Header) (rest : List FVal)
    (hty : Typed L.fields (.header h :: rest) = true)
    (hwf : h.status = 0 → ∀ x ∈ rest, FValWF L.isReplace (udhiOf L.fields (.header h :: rest)) x)
    (b : Bytes) (after : List FVal)
    (hm : marshal L (.header h :: rest) = ⟨.ok b, after⟩) (hlen : b.length ≤ 65536)
    (cs : Stream) (hcs : cs.flatten = b) :
    (readPDU layouts cs).out = .ok L.name (decodedOf L b.length after) ∧
    (readPDU layouts cs).consumed = b.length :=
  readPDU_of_unmarshal layouts L hL hreg _ b after hm hlen _ (unmarshal_marshal L hL h rest hty hwf b after hm hlen)
    cs hcs

/-- An accepted PDU carries the command_id of the layout that decoded it, because the registry is keyed by it. -/
theorem readPDU_ok_unmarshal (layouts : List Layout) (hOK : ∀ L ∈ layouts, LayoutOK L = true) (s : Stream)
    (name : String) (v : List FVal) (hr : (readPDU layouts s).out = .ok name v) :
    ∃ L frame, L ∈ layouts ∧ L.name = name ∧ unmarshal L frame = some v ∧
      (∀ h rest, v = .header h :: rest → h.id = UInt32.ofNat L.id) := by
  obtain ⟨f, hres⟩ := readPDU_ok hr
  obtain ⟨L, hmem, hidL, hn, hun⟩ := Frame.result_ok hres
  refine ⟨L, f.bytes, hmem, hn, hun, fun h rest hv => ?_⟩
  rw [hv] at hun
  rw [unmarshal_header (hOK L hmem) hun, hidL, UInt32.ofNat_toNat]

end Smpp.Pdu

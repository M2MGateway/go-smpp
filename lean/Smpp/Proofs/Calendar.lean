/-
The day-number conversion of Model/Calendar.lean is the identity on every valid civil date of
every year: the usual argument for the civil-from-days algorithm (era of 400 years, year of era,
day of the March-based year), each step linear arithmetic over the floor divisions involved.
-/
import Smpp.Model.Calendar

namespace Smpp.Time

/-- `doy = 365` is the last day of a leap (March-based) year, i.e. 29 February of year `yoe + 1` of the era. -/
theorem yoe_of_doe (yoe doy doe : Int) (h0 : 0 ≤ yoe ∧ yoe < 400) (hd : 0 ≤ doy ∧ doy ≤ 365)
    (hleap : doy = 365 → (yoe + 1) % 4 = 0 ∧ ((yoe + 1) % 100 ≠ 0 ∨ (yoe + 1) % 400 = 0))
    (hdoe : doe = yoe * 365 + yoe / 4 - yoe / 100 + doy) :
    (doe - doe / 1460 + doe / 36524 - doe / 146096) / 365 = yoe := by
  -- `omega` does not find the quotients by itself: give it the century
  have hc : doe / 36524 - doe / 146096 = yoe / 100 := by
    have hlo : 36524 * (yoe / 100) ≤ doe := by omega
    have hhi : doe < 36524 * (yoe / 100) + 36524 ∨ doe = 146096 := by omega
    omega
  omega

theorem civilFromDays_eq (era yoe doy : Int) (h0 : 0 ≤ yoe ∧ yoe < 400) (hd : 0 ≤ doy ∧ doy ≤ 365)
    (hleap : doy = 365 → (yoe + 1) % 4 = 0 ∧ ((yoe + 1) % 100 ≠ 0 ∨ (yoe + 1) % 400 = 0)) :
    civilFromDays (era * 146097 + (yoe * 365 + yoe / 4 - yoe / 100 + doy) - 719468) =
      (if (if (5 * doy + 2) / 153 < 10 then (5 * doy + 2) / 153 + 3 else (5 * doy + 2) / 153 - 9) ≤ 2
          then yoe + era * 400 + 1 else yoe + era * 400,
       if (5 * doy + 2) / 153 < 10 then (5 * doy + 2) / 153 + 3 else (5 * doy + 2) / 153 - 9,
       doy - (153 * ((5 * doy + 2) / 153) + 2) / 5 + 1) := by
  unfold civilFromDays
  extract_lets z era' doe yoe' y doy' mp d m
  have hera : era' = era := by omega
  have hdoe : doe = yoe * 365 + yoe / 4 - yoe / 100 + doy := by omega
  have hyoe : yoe' = yoe := yoe_of_doe yoe doy doe h0 hd hleap hdoe
  have hdoy : doy' = doy := by simp only [doy', hyoe]; omega
  simp only [m, d, mp, hdoy, y, hyoe, hera]

theorem le_daysInMonth {y m d : Nat} (h : d ≤ daysInMonth y m) :
    d ≤ 31 ∧ (m = 4 ∨ m = 6 ∨ m = 9 ∨ m = 11 → d ≤ 30) ∧
    (m = 2 → d ≤ 29 ∧ (d = 29 → (y % 4 = 0 ∧ y % 100 ≠ 0) ∨ y % 400 = 0)) := by
  simp only [daysInMonth, isLeap, beq_iff_eq, Bool.or_eq_true, Bool.and_eq_true, bne_iff_ne] at h
  split at h <;> split at h <;> omega

/-- month lengths enter here, a case per month (`mp = 0` is March, `mp = 11` February) -/
theorem month_of_doy (mp d : Int) (hmp : 0 ≤ mp ∧ mp ≤ 11) (hd : 1 ≤ d ∧ d ≤ 31)
    (h30 : mp = 1 ∨ mp = 3 ∨ mp = 6 ∨ mp = 8 → d ≤ 30) (hfeb : mp = 11 → d ≤ 29) :
    (5 * ((153 * mp + 2) / 5 + d - 1) + 2) / 153 = mp := by
  have : mp = 0 ∨ mp = 1 ∨ mp = 2 ∨ mp = 3 ∨ mp = 4 ∨ mp = 5 ∨ mp = 6 ∨ mp = 7 ∨ mp = 8 ∨ mp = 9 ∨ mp = 10 ∨ mp = 11 := by
    omega
  rcases this with rfl | rfl | rfl | rfl | rfl | rfl | rfl | rfl | rfl | rfl | rfl | rfl <;> omega

theorem civil_roundtrip (y m d : Nat) (hm : 1 ≤ m ∧ m ≤ 12) (hd : 1 ≤ d ∧ d ≤ daysInMonth y m) :
    civilFromDays (daysFromCivil (y : Int) (m : Int) (d : Int)) = ((y : Int), (m : Int), (d : Int)) := by
  have hd2 := le_daysInMonth hd.2
  unfold daysFromCivil
  extract_lets y' era yoe mp doy doe
  -- each fact is proved where it is used: `omega` splits on every `if` and `→` it finds in the context
  rw [show doe = yoe * 365 + yoe / 4 - yoe / 100 + doy from rfl,
    civilFromDays_eq era yoe doy (by omega) (by omega) (by omega),
    show (5 * doy + 2) / 153 = mp from month_of_doy mp d (by omega) (by omega) (by omega) (by omega),
    show (if mp < 10 then mp + 3 else mp - 9) = m by omega,
    show (if (m : Int) ≤ 2 then yoe + era * 400 + 1 else yoe + era * 400) = y by omega,
    show doy - (153 * mp + 2) / 5 + 1 = d by omega]

end Smpp.Time

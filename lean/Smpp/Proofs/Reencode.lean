/-
Stability of re-encoding (C13): a frame the decoder accepted, re-encoded, decodes to the same
value (empty TLVs dropped, header length restated) and that value encodes to the same octets.
-/
import Smpp.Proofs.DecodedWF

namespace Smpp.Pdu

theorem dropEmpty_idem (t : KMap) : dropEmpty (dropEmpty t) = dropEmpty t := by
  unfold dropEmpty; simp

theorem normVal_idem (v : FVal) : normVal (normVal v) = normVal v := by
  cases v <;> simp [normVal, dropEmpty_idem]

theorem normVal_zero (k : Kind) : normVal (zeroVal k) = zeroVal k := by
  cases k <;> rfl

theorem hasKind_zero (k : Kind) : (zeroVal k).hasKind k = true := by
  cases k <;> rfl

theorem typed_zero : ∀ fs : List Field, Typed fs (fs.map fun g => zeroVal g.kind) = true
  | [] => rfl
  | f :: fs => by rw [List.map_cons, Typed, hasKind_zero, typed_zero fs]; rfl

theorem typed_header {f : Field} (hfk : f.kind = .header) (fs : List Field) (h : Header) (vs : List FVal) :
    Typed (f :: fs) (.header h :: vs) = Typed fs vs := by
  rw [Typed, hfk]; rfl

/-! ### a decoded value that encodes is in the round trip's domain

Prepare leaves it as it is, and the encoder's length guard bounds the TLV values, which the decoder does not. -/

theorem afterEnc_of_pre {rp U : Bool} {v : FVal} (hp : FValPre rp U v) : afterEnc rp U v = v := by
  cases v with
  | sm m => exact congrArg FVal.sm hp.2
  | _ => rfl

theorem FValWF_of_pre {rp U : Bool} {v : FVal} {b : Bytes} (hp : FValPre rp U v) (he : encVal v = .ok b) :
    FValWF rp U v := by
  cases v with
  | tags t => exact ⟨hp.1, fun kv hkv => ⟨hp.2 kv hkv, (encTagsSorted_ok_iff.mp he).1 kv hkv⟩⟩
  | sm m => rw [FValWF, hp.2]; exact hp.1
  | _ => exact hp

theorem encFields_pre {rp U : Bool} : ∀ {vs : List FVal} {bs : Bytes} {vs' : List FVal},
    (∀ x ∈ vs, FValPre rp U x) → encFields rp U vs = .ok (bs, vs') → vs' = vs ∧ ∀ x ∈ vs, FValWF rp U x
  | [], _, _, _, h => ⟨(encFields_nil_ok.mp h).2, nofun⟩
  | v :: vs, _, _, hp, h => by
    obtain ⟨b, _, _, h1, h2, _, rfl⟩ := encFields_cons_ok.mp h
    obtain ⟨hpv, hps⟩ := List.forall_mem_cons.mp hp
    rw [afterEnc_of_pre hpv] at h1 ⊢
    obtain ⟨rfl, hws⟩ := encFields_pre hps h2
    exact ⟨rfl, List.forall_mem_cons.mpr ⟨FValWF_of_pre hpv h1, hws⟩⟩

/-! ### dropping empty TLVs changes neither the octets nor the UDH indicator -/

theorem encVal_norm {v : FVal} {b : Bytes} (h : encVal v = .ok b) : encVal (normVal v) = .ok b := by
  cases v with
  | tags t =>
    obtain ⟨hlen, rfl⟩ := encTagsSorted_ok_iff.mp h
    exact encTagsSorted_ok_iff.mpr ⟨fun kv hkv => hlen kv (List.mem_filter.mp hkv).1, by rw [dropEmpty_idem]⟩
  | _ => exact h

theorem afterEnc_norm (rp U : Bool) (v : FVal) : afterEnc rp U (normVal v) = normVal (afterEnc rp U v) := by
  cases v <;> rfl

theorem encFields_norm {rp U : Bool} : ∀ {vs : List FVal} {bs : Bytes} {vs' : List FVal},
    encFields rp U vs = .ok (bs, vs') → encFields rp U (vs.map normVal) = .ok (bs, vs'.map normVal)
  | [], _, _, h => by obtain ⟨rfl, rfl⟩ := encFields_nil_ok.mp h; rfl
  | v :: vs, _, _, h => by
    obtain ⟨b, bs₂, vs₂, h1, h2, rfl, rfl⟩ := encFields_cons_ok.mp h
    exact encFields_cons_ok.mpr ⟨b, bs₂, _, by rw [afterEnc_norm]; exact encVal_norm h1, encFields_norm h2, rfl,
      by rw [afterEnc_norm]; rfl⟩

theorem udhiOf_norm : ∀ (fs : List Field) (vs : List FVal), udhiOf fs (vs.map normVal) = udhiOf fs vs
  | [], vs => by cases vs <;> rfl
  | _ :: _, [] => rfl
  | f :: fs, v :: vs => by
    rw [List.map_cons, udhiOf_cons, udhiOf_cons, udhiOf_norm fs vs]
    cases v <;> rfl

theorem udhiOf_header (fs : List Field) (h h' : Header) (vs : List FVal) :
    udhiOf fs (.header h :: vs) = udhiOf fs (.header h' :: vs) := by
  cases fs <;> rfl

/-- A second Marshal sees the same status, the same UDH indicator and fields that encode alike. -/
theorem encBody_norm {L : Layout} {h h' : Header} {rest : List FVal} {body : Bytes} {rest' : List FVal}
    (hst : h'.status = h.status) (he : encBody L h rest = .ok (body, rest')) :
    encBody L h' (rest.map normVal) = .ok (body, rest'.map normVal) := by
  unfold encBody at he ⊢
  rw [hst]
  split at he
  · next hs => cases he; rw [if_pos hs]
  · next hs =>
    rw [if_neg hs, udhiOf_header L.fields h' h, show udhiOf L.fields (.header h :: rest.map normVal) = _ from
      udhiOf_norm L.fields (.header h :: rest)]
    exact encFields_norm he

theorem unmarshal_wf (L : Layout) (hL : LayoutOK L = true) (b : Bytes) (v : List FVal)
    (hu : unmarshal L b = some v) (hbf : NoReserved L.isReplace v) :
    ∃ h rest, v = .header h :: rest ∧ Typed L.fields v = true ∧
      (h.status ≠ 0 → rest = L.fields.tail.map (fun g => zeroVal g.kind)) ∧
      (h.status = 0 → ∀ x ∈ rest, FValPre L.isReplace (udhiOf L.fields v) x) := by
  obtain ⟨f, fs, hf, hfk, hfn, hnh, _, hesm, _⟩ := LayoutOK_iff.mp hL
  rw [unmarshal_eq hf hfk] at hu
  split at hu
  · cases hu
  · next h r _ =>
    split at hu
    · next hst =>
      cases hu
      exact ⟨h, _, rfl, by rw [hf, typed_header hfk, typed_zero], fun _ => by rw [hf]; rfl,
        fun h0 => by simp [h0] at hst⟩
    · next hst =>
      obtain ⟨vs, hr, rfl⟩ := Option.map_eq_some_iff.mp hu
      obtain ⟨hty, hwf⟩ := decFields_wf L.isReplace fs false r vs hnh hesm hr fun m hm => hbf m (.tail _ hm)
      refine ⟨h, vs, rfl, by rw [hf, typed_header hfk, hty], fun hne => by simp [hne] at hst, fun _ => ?_⟩
      rw [hf, udhiOf_cons_ne f fs _ vs hfn, ← udhiFinal_false]
      exact hwf

/-- What Marshal's success adds to `unmarshal_wf`: Marshal leaves the fields as they are (Prepare is the identity on
a decoded short message), and where it wrote them they are in the round trip's domain. -/
theorem encBody_decoded {L : Layout} {h : Header} {rest : List FVal} {body : Bytes} {rest' : List FVal}
    (hpre : h.status = 0 → ∀ x ∈ rest, FValPre L.isReplace (udhiOf L.fields (.header h :: rest)) x)
    (he : encBody L h rest = .ok (body, rest')) :
    rest' = rest ∧ (h.status = 0 → ∀ x ∈ rest, FValWF L.isReplace (udhiOf L.fields (.header h :: rest)) x) := by
  unfold encBody at he
  split at he
  · next hst => cases he; exact ⟨rfl, fun h0 => by simp [h0] at hst⟩
  · next hst =>
    obtain ⟨hr, hwf⟩ := encFields_pre (hpre (by simpa using hst)) he
    exact ⟨hr, fun _ => hwf⟩

/-- restate the header's command_length -/
def relen (n : Nat) : List FVal → List FVal
  | .header h :: r => .header { h with len := UInt32.ofNat n } :: r
  | v => v

/-- **Re-encoding is stable.**  Let `v` be what the decoder made of ANY frame `b` (command_id as
ReadPDU's registry lookup guarantees; no reserved data_coding 0xBF).  If Marshal accepts `v`,
writing `b2` (within ReadPDU's 64 KiB frame limit), then
 * Marshal left the caller's value unchanged,
 * decoding `b2` gives `v` again, up to empty TLVs being dropped and the header restating `b2`'s length,
 * and Marshal of that value writes exactly `b2` again, leaving it unchanged (a fixed point). -/
theorem reencode_stable (L : Layout) (hL : LayoutOK L = true) (b : Bytes) (v : List FVal)
    (hu : unmarshal L b = some v) (hbf : NoReserved L.isReplace v)
    (hid : ∀ h rest, v = .header h :: rest → h.id = UInt32.ofNat L.id)
    (b2 : Bytes) (after : List FVal) (hm : marshal L v = ⟨.ok b2, after⟩) (hlen : b2.length ≤ 65536) :
    after = v ∧
    unmarshal L b2 = some (relen b2.length (v.map normVal)) ∧
    marshal L (relen b2.length (v.map normVal)) = ⟨.ok b2, relen b2.length (v.map normVal)⟩ := by
  obtain ⟨h, rest, rfl, hty, hzero, hpre⟩ := unmarshal_wf L hL b v hu hbf
  obtain ⟨hseq, body, rest', he, hb, hafter⟩ := marshal_ok_iff.mp hm
  obtain ⟨hr, hwf⟩ := encBody_decoded hpre he
  subst rest'
  have hum := unmarshal_marshal L hL h rest hty hwf b2 after hm hlen
  have hh : (⟨h.len, UInt32.ofNat L.id, h.status, h.seq⟩ : Header) = h := by rw [← hid h rest rfl]
  rw [hh] at hafter
  subst hafter
  -- what was decoded from `b2` is the value with empty TLVs dropped and the length restated
  have hv2 : decodedOf L b2.length (.header h :: rest) = relen b2.length ((FVal.header h :: rest).map normVal) := by
    simp only [decodedOf, List.map_cons, normVal, relen]
    split
    · next hst =>
      rw [hzero (by simpa using hst), List.map_map]
      exact congrArg _ (List.map_congr_left fun g _ => (normVal_zero g.kind).symm)
    · rfl
  rw [hv2] at hum
  exact ⟨rfl, hum, marshal_ok_iff.mpr ⟨hseq, body, _, encBody_norm (h := h) rfl he, hb, by rw [← hid h rest rfl]; rfl⟩⟩

end Smpp.Pdu

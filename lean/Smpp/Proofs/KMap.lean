/-
Lemmas about the canonical (key-sorted) association list that models a Go map.
-/
import Smpp.Model.Pdu

namespace Smpp.Pdu

/-- strictly ascending keys -/
def KSorted (m : KMap) : Prop := m.Pairwise (fun a b => a.1 < b.1)

instance (m : KMap) : Decidable (KSorted m) := by unfold KSorted; infer_instance

theorem KMap.insert_of_all_lt (m : KMap) (k : Nat) (v : Bytes) (h : ∀ x ∈ m, x.1 < k) :
    m.insert k v = m ++ [(k, v)] := by
  fun_induction KMap.insert k v m with
  | case1 => rfl
  | case2 k' v' r hlt => have := h (k', v') (by simp); omega
  | case3 v' r _ => have := h (k, v') (by simp); simp at this
  | case4 k' v' r _ _ ih => rw [ih fun x hx => h x (List.mem_cons_of_mem _ hx)]; rfl

theorem KMap.foldl_insert_sorted (l acc : KMap) (h : KSorted (acc ++ l)) :
    l.foldl (fun m kv => m.insert kv.1 kv.2) acc = acc ++ l := by
  induction l generalizing acc with
  | nil => simp
  | cons a l ih =>
    -- the keys so far are below the next one, which is therefore appended
    have hlt : ∀ x ∈ acc, x.1 < a.1 := fun x hx => (List.pairwise_append.mp h).2.2 x hx a (by simp)
    have e : acc ++ [(a.1, a.2)] ++ l = acc ++ a :: l := by simp
    rw [List.foldl_cons, KMap.insert_of_all_lt acc a.1 a.2 hlt, ih _ (e ▸ h), e]

theorem KMap.ofList_sorted (l : KMap) (h : KSorted l) : KMap.ofList l = l := by
  unfold KMap.ofList
  simpa using KMap.foldl_insert_sorted l [] (by simpa using h)

theorem KMap.mem_insert {m : KMap} {k : Nat} {v : Bytes} {x : Nat × Bytes}
    (hx : x ∈ m.insert k v) : x = (k, v) ∨ x ∈ m := by
  fun_induction KMap.insert k v m <;> grind

theorem KMap.insert_sorted (m : KMap) (k : Nat) (v : Bytes) (h : KSorted m) :
    KSorted (m.insert k v) := by
  unfold KSorted at *
  fun_induction KMap.insert k v m with
  | case1 => simp
  | case2 k' v' r hlt =>
    exact List.pairwise_cons.mpr ⟨fun x hx => by
      rcases List.mem_cons.mp hx with rfl | hx
      · exact hlt
      · exact Nat.lt_trans hlt (List.rel_of_pairwise_cons h hx), h⟩
  | case3 v' r _ => rw [List.pairwise_cons] at h ⊢; exact h
  | case4 k' v' r hnlt hne ih =>
    rw [List.pairwise_cons] at h ⊢
    refine ⟨fun x hx => ?_, ih h.2⟩
    rcases KMap.mem_insert hx with rfl | hx
    · show k' < k; omega
    · exact h.1 x hx

theorem KMap.foldl_insert_sorted' (l : List (Nat × Bytes)) (acc : KMap) (h : KSorted acc) :
    KSorted (l.foldl (fun m kv => m.insert kv.1 kv.2) acc) := by
  induction l generalizing acc with
  | nil => simpa
  | cons a l ih => exact ih _ (KMap.insert_sorted acc a.1 a.2 h)

/-- the invariant of the decoders' loops (`decTags`, `decUdhLoop`): keys ascending and below the bound of their octet width -/
theorem KMap.insert_sorted_lt {m : KMap} {k : Nat} {v : Bytes} {B : Nat}
    (hm : KSorted m ∧ ∀ x ∈ m, x.1 < B) (hk : k < B) :
    KSorted (m.insert k v) ∧ ∀ x ∈ m.insert k v, x.1 < B :=
  ⟨KMap.insert_sorted m k v hm.1, fun x hx => (KMap.mem_insert hx).elim (fun h => h ▸ hk) (hm.2 x)⟩

end Smpp.Pdu

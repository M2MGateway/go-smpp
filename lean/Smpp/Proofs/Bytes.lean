/-
Helper lemmas: big-endian integers, exact reads, the chunked-stream model.
-/
import Smpp.Prelude

namespace Smpp

theorem rd16_nat {k : Nat} (h : k < 65536) :
    (rd16 (UInt8.ofNat (k / 256)) (UInt8.ofNat k)).toNat = k := by
  simp only [rd16, UInt8.toNat_ofNat', UInt16.toNat_ofNat']
  omega

theorem rd32_nat {k : Nat} (h : k < 4294967296) :
    (rd32 (UInt8.ofNat (k / 16777216)) (UInt8.ofNat (k / 65536)) (UInt8.ofNat (k / 256)) (UInt8.ofNat k)).toNat = k := by
  simp only [rd32, UInt8.toNat_ofNat', UInt32.toNat_ofNat']
  omega

theorem rd16_be16 (n : UInt16) :
    rd16 (UInt8.ofNat (n.toNat / 256)) (UInt8.ofNat n.toNat) = n :=
  UInt16.toNat_inj.mp (rd16_nat n.toNat_lt)

theorem rd32_be32 (n : UInt32) :
    rd32 (UInt8.ofNat (n.toNat / 16777216)) (UInt8.ofNat (n.toNat / 65536))
      (UInt8.ofNat (n.toNat / 256)) (UInt8.ofNat n.toNat) = n :=
  UInt32.toNat_inj.mp (rd32_nat n.toNat_lt)

theorem be32_rd32 (a b c d : UInt8) : be32 (rd32 a b c d) = [a, b, c, d] := by
  have ha := a.toNat_lt; have hb := b.toNat_lt; have hc := c.toNat_lt; have hd := d.toNat_lt
  simp only [be32, rd32, UInt32.toNat_ofNat', List.cons.injEq, and_true, ← UInt8.toNat_inj, UInt8.toNat_ofNat']
  omega

theorem be32_length (n : UInt32) : (be32 n).length = 4 := rfl
theorem be16_length (n : UInt16) : (be16 n).length = 2 := rfl

theorem u8_ofNat_toNat {n : Nat} (h : n ≤ 255) : (UInt8.ofNat n).toNat = n := by
  simp; omega

/-- A fact about every octet, from a sweep over `Fin 256` that the kernel can run. -/
theorem forall_u8 {P : UInt8 → Prop} (h : ∀ k : Fin 256, P (UInt8.ofNat k.val)) (c : UInt8) : P c := by
  simpa using h ⟨c.toNat, c.toNat_lt⟩

theorem readCStr_append (s r : Bytes) (h : ∀ b ∈ s, b ≠ 0) :
    readCStr (s ++ 0 :: r) = some (s, r) := by
  induction s with
  | nil => simp [readCStr]
  | cons b s ih =>
    obtain ⟨hb, hs⟩ := List.forall_mem_cons.mp h
    simp [readCStr, hb, ih hs]

theorem readCStr_some {bs s r : Bytes} (h : readCStr bs = some (s, r)) :
    (∀ b ∈ s, b ≠ 0) ∧ bs = s ++ 0 :: r := by
  fun_induction readCStr bs generalizing s r with
  | case1 => cases h
  | case2 t => cases h; exact ⟨nofun, rfl⟩
  | case3 b t hb s' r' hrec ih =>
    cases h
    obtain ⟨h1, rfl⟩ := ih hrec
    exact ⟨List.forall_mem_cons.mpr ⟨hb, h1⟩, rfl⟩
  | case4 => cases h

theorem takeN_append (a r : Bytes) : takeN a.length (a ++ r) = some (a, r) := by
  simp [takeN]

theorem takeN_some {n : Nat} {bs a r : Bytes} (h : takeN n bs = some (a, r)) :
    bs = a ++ r ∧ a.length = n := by
  unfold takeN at h
  split at h
  · next hle =>
    obtain ⟨rfl, rfl⟩ := h
    simp [hle]
  · simp at h

/-! ### the chunked stream: io.ReadFull sees only the concatenation -/

theorem readFull_flat (n : Nat) (s : Stream) :
    (readFull n s).1 = s.flatten.take n ∧ (readFull n s).2.flatten = s.flatten.drop n := by
  fun_induction readFull n s with
  | case1 | case2 c s => simp
  | case3 n c s h0 hc r ih =>
    simp [r, ih, List.take_append, List.drop_append, List.take_of_length_le hc, List.drop_of_length_le hc]
  | case4 n c s h0 hc =>
    have hlt : n ≤ c.length := by omega
    simp [List.take_append_of_le_length hlt, List.drop_append_of_le_length hlt]

end Smpp

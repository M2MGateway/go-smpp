/-
The GSM 7-bit packer: the octets are the little-endian bit stream of the septets
(plus the CR filler exactly when seven bits would be spare), and unpacking returns
the septets (plus that filler).
-/
import Smpp.Proofs.Bits
import Smpp.Proofs.Bytes

namespace Smpp.Gsm7

/-- the septets that are actually packed: the text's septets plus the CR filler when n % 8 = 7 -/
def withFiller (s : List Nat) : List Nat := if s.length % 8 = 7 then s ++ [cr] else s

/-- the packed bit stream: septets LSB first, zero bits up to the octet boundary (`chunks k` cuts into pieces of `k + 1`:
`chunks 7` are octets, `chunks 6` septets) -/
def stream (s : List Nat) : List Bool :=
  let bits := (withFiller s).flatMap (bitsLE 7)
  bits ++ List.replicate ((8 - bits.length % 8) % 8) false

theorem flatMap_bits_length (S : List Nat) (w : Nat) : (S.flatMap (bitsLE w)).length = w * S.length := by
  simp [List.map_const', Nat.mul_comm]

theorem withFiller_length (s : List Nat) :
    (withFiller s).length = if s.length % 8 = 7 then s.length + 1 else s.length := by
  unfold withFiller
  split <;> simp

theorem stream_length (s : List Nat) : (stream s).length = 8 * ((7 * s.length + 7) / 8) := by
  unfold stream
  simp only [List.length_append, List.length_replicate, flatMap_bits_length, withFiller_length]
  -- with the filler, 7 (n + 1) bits are whole octets already; without it, 7 n bits are filled up to the next octet
  split <;> omega

theorem pack_eq (s : List Nat) : pack s = (chunks 7 (stream s)).map (fun c => UInt8.ofNat (ofBitsLE c)) := by
  unfold pack stream withFiller
  split <;> simp

theorem pack_stream (s : List Nat) : (pack s).flatMap (fun o => bitsLE 8 o.toNat) = stream s := by
  rw [pack_eq, List.flatMap_map, List.flatMap_def, List.map_congr_left (g := id), List.map_id]
  · exact flatten_chunks 7 (stream s) (by rw [stream_length]; exact Nat.mul_mod_right 8 _)
  · intro c hc
    have hl : c.length = 8 := length_of_mem_chunks hc
    have hlt := ofBitsLE_lt c
    rw [hl] at hlt
    rw [u8_ofNat_toNat (by omega), ← hl, bitsLE_ofBitsLE]
    rfl

theorem pack_length (s : List Nat) : (pack s).length = (7 * s.length + 7) / 8 := by
  rw [pack_eq, List.length_map, chunks_count, stream_length, Nat.mul_div_cancel_left _ (by decide)]

theorem pack_eq_nil {s : List Nat} (h : pack s = []) : s = [] := by
  have := pack_length s
  rw [h, List.length_nil] at this
  exact List.length_eq_zero_iff.mp (by omega)

theorem unpack_bits (S : List Nat) (pad : List Bool) (hS : ∀ x ∈ S, x < 128) (hp : pad.length < 7) :
    (chunks 6 (S.flatMap (bitsLE 7) ++ pad)).map ofBitsLE = S := by
  rw [List.flatMap_def, chunks_flatten 6 _ _ (by simp) hp, List.map_map, List.map_congr_left (g := id), List.map_id]
  intro x hx
  exact (ofBitsLE_bitsLE 7 x).trans (Nat.mod_eq_of_lt (hS x hx))

theorem unpack_pack (s : List Nat) (hs : ∀ x ∈ s, x < 128) : unpack (pack s) = withFiller s := by
  unfold unpack
  rw [pack_stream]
  refine unpack_bits _ _ ?_ ?_
  · -- the filler is a septet too
    unfold withFiller
    split <;> simpa [cr, or_imp, forall_and] using hs
  · -- fewer than seven fill bits, because of the filler
    rw [List.length_replicate, flatMap_bits_length, withFiller_length]
    split <;> omega

theorem stream_bit (S : List Nat) (tail : List Bool) (i j : Nat) (hi : i < S.length) (hj : j < 7) :
    (S.flatMap (bitsLE 7) ++ tail)[7 * i + j]? = some ((S[i]! / 2 ^ j) % 2 == 1) := by
  induction S generalizing i with
  | nil => simp at hi
  | cons x S ih =>
    rw [List.flatMap_cons, List.append_assoc]
    cases i with
    | zero =>
      rw [List.getElem?_append_left (by simpa using hj)]
      simp [bitsLE_range, hj]
    | succ i =>
      rw [show 7 * (i + 1) + j = (bitsLE 7 x).length + (7 * i + j) by simp; omega,
        List.getElem?_append_right (Nat.le_add_right _ _), Nat.add_sub_cancel_left, ih i (by simpa using hi)]
      simp

end Smpp.Gsm7

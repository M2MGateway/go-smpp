/-
The multipart combiner: no history can make it panic, every delivery it makes is either one
non-concatenated PDU or one complete, unmixed message in sequence order, and no PDU is delivered
more often than it arrived.  `Step` says what one call does, `run_inv` lifts what a call preserves
to every history.
-/
import Smpp.Model.Combiner

namespace Smpp.Combiner
open Smpp.Pdu

theorem idx_lt (site : String) (d : Bytes) (i : Nat) (h : i < d.length) : idx site d i = .ok d[i] := by
  rw [idx, List.getElem?_eq_getElem h]

theorem concatHeader_ok (udh : Option KMap) :
    ∃ r, concatHeader udh = .ok r ∧ ∀ h, r = some h → h.total < 256 ∧ h.seq < 256 := by
  unfold concatHeader
  split
  · exact ⟨none, rfl, by simp⟩
  · split
    · next d hd =>
      have hl : 3 ≤ d.length := of_decide_eq_true (Option.filter_eq_some_iff.mp hd).2
      simp (disch := omega) only [idx_lt]
      exact ⟨_, rfl, by rintro _ ⟨⟩; exact ⟨UInt8.toNat_lt _, UInt8.toNat_lt _⟩⟩
    · split
      · next d hd =>
        have hl : 4 ≤ d.length := of_decide_eq_true (Option.filter_eq_some_iff.mp hd).2
        simp (disch := omega) only [idx_lt]
        exact ⟨_, rfl, by rintro _ ⟨⟩; exact ⟨UInt8.toNat_lt _, UInt8.toNat_lt _⟩⟩
      · exact ⟨none, rfl, by simp⟩

theorem concatHeader_lt {udh : Option KMap} {h : ConcatHeader} (hh : concatHeader udh = .ok (some h)) :
    h.total < 256 ∧ h.seq < 256 := by
  obtain ⟨_, ho, hb⟩ := concatHeader_ok udh
  exact hb h (P.ok.inj (ho.symm.trans hh))

theorem setSlot_eq (slots : List (Option Seg)) (seq : Nat) (p : Seg) (h0 : seq ≠ 0) (h1 : seq ≤ slots.length)
    (h2 : seq < 256) : setSlot slots seq p = .ok (slots.set (seq - 1) (some p)) := by
  obtain ⟨n, rfl⟩ := Nat.exists_eq_succ_of_ne_zero h0
  have hi : (n + 1 + 255) % 256 = n := by
    rw [Nat.add_assoc, Nat.add_mod_right, Nat.mod_eq_of_lt (Nat.lt_of_succ_lt h2)]
  rw [setSlot, hi, if_pos (Nat.lt_of_succ_le h1)]
  rfl

/-- `isDone` counts down from `total` in an octet; with at most 255 slots that is the all-filled test -/
theorem isDone_eq_all (slots : List (Option Seg)) (total : Nat) (hl : slots.length = total) (ht : total < 256) :
    isDone slots total = slots.all Option.isSome := by
  have hle : (slots.filter Option.isSome).length ≤ total := hl ▸ List.length_filter_le ..
  -- all filled ⇔ filtering the filled slots removes none ⇔ there are `slots.length` of them
  rw [Bool.eq_iff_iff, List.all_eq_true, ← List.filter_eq_self, ← List.filter_sublist.length_eq]
  -- the countdown `(total + 256 * k - filled) % 256` is `total - filled`, which is below 256
  rw [isDone, beq_iff_eq, Nat.sub_add_comm hle, Nat.add_mul_mod_self_left,
    Nat.mod_eq_of_lt (Nat.lt_of_le_of_lt (Nat.sub_le ..) ht)]
  omega

/-- a well-formed segment `p` with concatenation header `h`, and the slot array it goes into: the one the
registry holds under its key, or a fresh one of the announced size -/
structure Arrives (r : Registry) (p : Seg) (h : ConcatHeader) (slots : List (Option Seg)) : Prop where
  header : concatHeader p.udh = .ok (some h)
  seq_ne : h.seq ≠ 0
  seq_le : h.seq ≤ h.total
  slots_eq : (regFind r ⟨p.src, p.dst, h.reference⟩).getD (List.replicate h.total none) = slots

/-- one rule for each way through CombineMultipartDeliverSM's closure, with the octet arithmetic resolved
(`Sequence-1` is `h.seq - 1`, `isDone` is "no empty slot") -/
inductive Step (r : Registry) (p : Seg) : Registry → List (List Seg) → Prop
  | plain (hh : concatHeader p.udh = .ok none) : Step r p r [[p]]
  | dropped {h} (hh : concatHeader p.udh = .ok (some h)) (hb : h.seq = 0 ∨ h.total < h.seq) : Step r p r []
  -- a later segment announcing another total is ignored; `regSet` of the unchanged slots only moves the entry to the
  -- front of the association list (Go's map is untouched)
  | mismatch {h slots} (ha : Arrives r p h slots) (hl : slots.length ≠ h.total) :
      Step r p (regSet r ⟨p.src, p.dst, h.reference⟩ slots) []
  | kept {h slots} (ha : Arrives r p h slots) (hl : slots.length = h.total)
      (hf : ¬ ∀ o ∈ slots.set (h.seq - 1) (some p), o.isSome) :
      Step r p (regSet r ⟨p.src, p.dst, h.reference⟩ (slots.set (h.seq - 1) (some p))) []
  | completed {h slots} (ha : Arrives r p h slots) (hl : slots.length = h.total)
      (hf : ∀ o ∈ slots.set (h.seq - 1) (some p), o.isSome) :
      Step r p (regErase r ⟨p.src, p.dst, h.reference⟩) [(slots.set (h.seq - 1) (some p)).filterMap id]

variable {r r' : Registry} {p : Seg} {h : ConcatHeader} {k : Key} {slots : List (Option Seg)} {ds : List (List Seg)}

theorem Arrives.step_eq (ha : Arrives r p h slots) :
    step r p = if slots.length = h.total then
        if (slots.set (h.seq - 1) (some p)).all Option.isSome
        then .ok (regErase r ⟨p.src, p.dst, h.reference⟩, [(slots.set (h.seq - 1) (some p)).filterMap id])
        else .ok (regSet r ⟨p.src, p.dst, h.reference⟩ (slots.set (h.seq - 1) (some p)), [])
      else .ok (regSet r ⟨p.src, p.dst, h.reference⟩ slots, []) := by
  obtain ⟨hh, h0, h1, hs⟩ := ha
  have hg : ¬ (h.seq = 0 ∨ h.total < h.seq) := by omega
  have ⟨ht, hq⟩ := concatHeader_lt hh
  simp only [step, hh, Bool.or_eq_true, decide_eq_true_eq, hg, ↓reduceIte, hs, ite_not]
  refine ite_congr rfl (fun hl => ?_) fun _ => rfl
  rw [setSlot_eq _ _ p h0 (hl.symm ▸ h1) hq, ← isDone_eq_all _ _ ((List.length_set ..).trans hl) ht]

theorem Step.eq (hs : Step r p r' ds) : step r p = .ok (r', ds) := by
  cases hs with
  | plain hh => simp only [step, hh]
  | dropped hh hb => simp only [step, hh, Bool.or_eq_true, decide_eq_true_eq, hb, ↓reduceIte]
  | mismatch ha hl => rw [ha.step_eq, if_neg hl]
  | kept ha hl hf => rw [ha.step_eq, if_pos hl, if_neg (mt List.all_eq_true.mp hf)]
  | completed ha hl hf => rw [ha.step_eq, if_pos hl, if_pos (List.all_eq_true.mpr hf)]

theorem Step.total (r : Registry) (p : Seg) : ∃ r' ds, Step r p r' ds := by
  obtain ⟨o, ho, -⟩ := concatHeader_ok p.udh
  cases o with
  | none => exact ⟨_, _, .plain ho⟩
  | some h =>
    by_cases hb : h.seq = 0 ∨ h.total < h.seq
    · exact ⟨_, _, .dropped ho hb⟩
    · obtain ⟨slots, ha⟩ : ∃ slots, Arrives r p h slots := ⟨_, ho, by omega, by omega, rfl⟩
      by_cases hl : slots.length = h.total
      · by_cases hf : ∀ o ∈ slots.set (h.seq - 1) (some p), o.isSome
        · exact ⟨_, _, .completed ha hl hf⟩
        · exact ⟨_, _, .kept ha hl hf⟩
      · exact ⟨_, _, .mismatch ha hl⟩

theorem Step.of_step (hs : step r p = .ok (r', ds)) : Step r p r' ds := by
  obtain ⟨r1, d1, h1⟩ := Step.total r p
  cases h1.eq.symm.trans hs
  exact h1

theorem step_ok (r : Registry) (p : Seg) : ∃ out, step r p = .ok out :=
  let ⟨_, _, hs⟩ := Step.total r p
  ⟨_, hs.eq⟩

theorem run_ok : ∀ (ps : List Seg) (r : Registry), ∃ out, run r ps = .ok out
  | [], _ => ⟨_, rfl⟩
  | p :: ps, r => by
    obtain ⟨⟨r', d⟩, h1⟩ := step_ok r p
    obtain ⟨⟨r'', ds⟩, h2⟩ := run_ok ps r'
    exact ⟨(r'', d ++ ds), by simp [run, h1, h2]⟩

/-- segment `p` is part `i+1` of an `n`-part message with key `k` -/
def IsPart (k : Key) (n i : Nat) (p : Seg) : Prop :=
  ∃ h, concatHeader p.udh = .ok (some h) ∧ (⟨p.src, p.dst, h.reference⟩ : Key) = k ∧ h.total = n ∧ h.seq = i + 1

def GoodSlots (k : Key) (slots : List (Option Seg)) : Prop :=
  ∀ i p, slots[i]? = some (some p) → IsPart k slots.length i p

def Inv (r : Registry) : Prop := ∀ e ∈ r, GoodSlots e.1 e.2

/-- what the callback may receive -/
def GoodDelivery (d : List Seg) : Prop :=
  (∃ p, d = [p] ∧ concatHeader p.udh = .ok none) ∨
  (∃ k, ∀ i p, d[i]? = some p → IsPart k d.length i p)

theorem goodSlots_set {i : Nat} (hg : GoodSlots k slots) (hp : IsPart k slots.length i p) : GoodSlots k (slots.set i (some p)) := by
  intro j q hq
  rw [List.length_set]
  rw [List.getElem?_set] at hq
  split at hq
  · next hij =>
    cases (Option.ite_none_right_eq_some.mp hq).2
    exact hij ▸ hp
  · exact hg j q hq

theorem inv_erase (h : Inv r) : Inv (regErase r k) :=
  fun e he => h e (List.mem_filter.mp he).1

theorem inv_set (h : Inv r) (hs : GoodSlots k slots) : Inv (regSet r k slots) := by
  intro e he
  rcases List.mem_cons.mp he with rfl | he
  · exact hs
  · exact inv_erase h e he

theorem regFind_mem (hf : regFind r k = some slots) : (k, slots) ∈ r := by
  obtain ⟨e, he, rfl⟩ := Option.map_eq_some_iff.mp hf
  have hk : e.1 = k := by simpa using List.find?_some he
  exact hk ▸ List.mem_of_find?_eq_some he

theorem Arrives.goodSlots (ha : Arrives r p h slots) (hinv : Inv r) :
    GoodSlots ⟨p.src, p.dst, h.reference⟩ slots := by
  rw [← ha.slots_eq]
  cases hf : regFind r ⟨p.src, p.dst, h.reference⟩ with
  | none => intro i q hq; simp [List.getElem?_replicate] at hq
  | some sl => exact hinv _ (regFind_mem hf)

theorem Arrives.goodSlots_set (ha : Arrives r p h slots) (hinv : Inv r) (hl : slots.length = h.total) :
    GoodSlots ⟨p.src, p.dst, h.reference⟩ (slots.set (h.seq - 1) (some p)) :=
  Combiner.goodSlots_set (ha.goodSlots hinv) ⟨h, ha.header, rfl, hl.symm, (Nat.sub_one_add_one ha.seq_ne).symm⟩

theorem goodDelivery_of_filled (hg : GoodSlots k slots)
    (hf : ∀ o ∈ slots, o.isSome) : GoodDelivery (slots.filterMap id) := by
  have hm : (slots.filterMap id).map some = slots := by
    rw [List.map_filterMap_some_eq_filter_map_isSome, List.map_id, List.filter_eq_self.mpr hf]
  refine .inr ⟨k, fun i q hq => ?_⟩
  have := hg i q (by rw [← hm, List.getElem?_map, hq]; rfl)
  rwa [← hm, List.length_map] at this

theorem step_good (hinv : Inv r) (hs : step r p = .ok (r', ds)) : Inv r' ∧ ∀ d ∈ ds, GoodDelivery d := by
  cases Step.of_step hs with
  | plain hh => exact ⟨hinv, by simpa using .inl ⟨p, rfl, hh⟩⟩
  | dropped => exact ⟨hinv, by simp⟩
  | mismatch ha => exact ⟨inv_set hinv (ha.goodSlots hinv), by simp⟩
  | kept ha hl => exact ⟨inv_set hinv (ha.goodSlots_set hinv hl), by simp⟩
  | completed ha hl hf =>
    exact ⟨inv_erase hinv, by simpa using goodDelivery_of_filled (ha.goodSlots_set hinv hl) hf⟩

theorem run_inv {I : Registry → List Seg → List (List Seg) → Prop}
    (hstep : ∀ {r hist dels p r' d}, I r hist dels → step r p = .ok (r', d) → I r' (hist ++ [p]) (dels ++ d))
    {ps : List Seg} {r r' : Registry} {ds : List (List Seg)} (h0 : I r [] []) (h : run r ps = .ok (r', ds)) :
    I r' ps ds := by
  suffices ∀ hist dels, I r hist dels → I r' (hist ++ ps) (dels ++ ds) by simpa using this [] [] h0
  clear h0
  fun_induction run r ps generalizing ds with
  | case1 => cases h; simp
  | case2 | case3 => cases h
  | case4 r p ps r1 d hs r2 ds2 hr ih =>
    cases h
    intro hist dels hI
    simpa using ih hr _ _ (hstep hI hs)

theorem run_good {ps : List Seg} (hinv : Inv r) (h : run r ps = .ok (r', ds)) :
    Inv r' ∧ ∀ d ∈ ds, GoodDelivery d :=
  run_inv (I := fun r _ dels => Inv r ∧ ∀ d ∈ dels, GoodDelivery d)
    (fun ⟨hi, hg⟩ hs => (step_good hi hs).imp_right fun hd d hm =>
      (List.mem_append.mp hm).elim (hg d) (hd d))
    ⟨hinv, by simp⟩ h

/-! The counting argument for "once": for any segment x, the number of times x is held in the registry plus
the number of times it has been delivered never exceeds the number of times it arrived. -/

/-- every segment currently held in some slot of the registry -/
def stored (r : Registry) : List Seg := r.flatMap (fun e => e.2.filterMap id)

theorem stored_cons (e : Key × List (Option Seg)) (r : Registry) :
    stored (e :: r) = e.2.filterMap id ++ stored r := by
  simp [stored]

theorem regFind_cons (e : Key × List (Option Seg)) (r : Registry) (k : Key) :
    regFind (e :: r) k = if e.1 = k then some e.2 else regFind r k := by
  by_cases h : e.1 = k <;> simp [regFind, h]

theorem regErase_cons (e : Key × List (Option Seg)) (r : Registry) (k : Key) :
    regErase (e :: r) k = if e.1 = k then regErase r k else e :: regErase r k := by
  by_cases h : e.1 = k <;> simp [regErase, h]

/-- `regFind` sees the first entry of the key, `regErase` removes all of them: hence ≤ -/
theorem count_find_erase_le (x : Seg) (r : Registry) (k : Key) (dflt : List (Option Seg))
    (hd : dflt.filterMap id = []) :
    (stored (regErase r k)).count x + (((regFind r k).getD dflt).filterMap id).count x ≤ (stored r).count x := by
  induction r with
  | nil => simp [regErase, regFind, hd]
  | cons e r ih =>
    rw [regFind_cons, regErase_cons]
    split <;> simp only [stored_cons, List.count_append, Option.getD_some] <;> omega

theorem count_stored_set (x : Seg) (r : Registry) (k : Key) (s : List (Option Seg)) :
    (stored (regSet r k s)).count x = (stored (regErase r k)).count x + (s.filterMap id).count x := by
  simp [regSet, stored_cons, Nat.add_comm]

theorem count_set_le (x p : Seg) (slots : List (Option Seg)) (i : Nat) (hi : i < slots.length) :
    ((slots.set i (some p)).filterMap id).count x ≤ (slots.filterMap id).count x + (if p = x then 1 else 0) := by
  have hc (l : List (Option Seg)) : (l.filterMap id).count x = l.count (some x) := by
    rw [List.count_filterMap]; rfl
  rw [hc, hc, List.count_set hi]
  simp only [beq_iff_eq, Option.some.injEq]
  omega

theorem Arrives.count_le (ha : Arrives r p h slots) (x : Seg) :
    (stored (regErase r ⟨p.src, p.dst, h.reference⟩)).count x + (slots.filterMap id).count x ≤ (stored r).count x :=
  ha.slots_eq ▸ count_find_erase_le x r _ _ (by simp)

theorem Arrives.count_set_le (ha : Arrives r p h slots) (hl : slots.length = h.total) (x : Seg) :
    (stored (regErase r ⟨p.src, p.dst, h.reference⟩)).count x +
      ((slots.set (h.seq - 1) (some p)).filterMap id).count x ≤ (stored r).count x + (if p = x then 1 else 0) := by
  have := ha.count_le x
  have := Combiner.count_set_le x p slots (h.seq - 1) (hl ▸ Nat.sub_one_lt_of_le (Nat.pos_of_ne_zero ha.seq_ne) ha.seq_le)
  omega

theorem step_count (x : Seg) (r r' : Registry) (p : Seg) (ds : List (List Seg))
    (h : step r p = .ok (r', ds)) :
    (stored r').count x + ds.flatten.count x ≤ (stored r).count x + (if p = x then 1 else 0) := by
  cases Step.of_step h with
  | plain => simp [List.count_cons]
  | dropped => simp
  | mismatch ha => simpa [count_stored_set] using Nat.le_add_right_of_le (ha.count_le x)
  | kept ha hl => simpa [count_stored_set] using ha.count_set_le hl x
  | completed ha hl => simpa using ha.count_set_le hl x

theorem run_count (x : Seg) {ps : List Seg} (h : run r ps = .ok (r', ds)) :
    (stored r').count x + ds.flatten.count x ≤ (stored r).count x + ps.count x :=
  run_inv (I := fun r' hist dels => (stored r').count x + dels.flatten.count x ≤ (stored r).count x + hist.count x)
    (fun hI hs => by have := step_count x _ _ _ _ hs; simp [List.count_cons] at *; omega)
    (by simp) h

end Smpp.Combiner

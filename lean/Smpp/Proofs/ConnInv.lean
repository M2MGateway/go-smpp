/-
Inductive invariants of the connection model (Smpp/Model/Conn.lean), for every reachable state:
any number of callers, any schedule, any placement of the environment's events.
-/
import Smpp.Model.Conn

namespace Smpp.Conn

/-! ## the call table and what the environment may do -/

/-- the property's premise: calls that register for a response carry distinct sequence numbers -/
def Distinct (tbl : Nat → Caller) : Prop :=
  ∀ i j, i ≠ j → (tbl i).kind ≠ .send → (tbl j).kind ≠ .send → (tbl i).seq ≠ (tbl j).seq

/-- every call starts idle with an empty response slot -/
def Fresh (tbl : Nat → Caller) : Prop :=
  ∀ i, (tbl i).pc = .idle ∧ (tbl i).box = none ∧ (tbl i).answered = false

theorem Fresh.pc {tbl} (hf : Fresh tbl) (i : Nat) : (tbl i).pc = .idle := (hf i).1
theorem Fresh.box {tbl} (hf : Fresh tbl) (i : Nat) : (tbl i).box = none := (hf i).2.1
theorem Fresh.answered {tbl} (hf : Fresh tbl) (i : Nat) : (tbl i).answered = false := (hf i).2.2

/-- peer-originated PDUs use the peer's own sequence numbers (DESIGN.md §9.6) -/
def Admissible (tbl : Nat → Caller) : Label → Prop
  | .peerUnsol seq _ => ∀ i, (tbl i).kind ≠ .send → (tbl i).seq ≠ seq
  | _ => True

inductive Reach (tbl : Nat → Caller) : State → Prop where
  | init : Reach tbl (init tbl)
  | step {s s' : State} (l : Label) : Reach tbl s → Admissible tbl l → step s l = some s' → Reach tbl s'

/-! ## program counters -/

/-- registered for a response (Submit between register and the deferred unregister) -/
def Pc.active : Pc → Bool
  | .registered | .checked | .wrote | .waiting | .leaving _ => true
  | _ => false

def Result.afterWrite : Result → Bool
  | .err .invalidSeq | .err .write => false
  | _ => true

/-- the call's frame has reached the transport -/
def Pc.pastWrite : Pc → Bool
  | .wrote | .waiting => true
  | .leaving r | .closing r | .cancelling r | .done r => r.afterWrite
  | _ => false

/-- the call has returned from Submit / Send (Close may still be closing the transport) -/
def Pc.departed : Pc → Bool
  | .closing _ | .cancelling _ | .done _ => true
  | _ => false

def Pc.result? : Pc → Option Result
  | .leaving r | .closing r | .cancelling r | .done r => some r
  | _ => none

@[simp] theorem upd_same {α} (f : Nat → α) (i : Nat) (v : α) : upd f i v i = v := by simp [upd]
@[simp] theorem upd_other {α} (f : Nat → α) (i j : Nat) (v : α) (h : j ≠ i) : upd f i v j = f j := by simp [upd, h]
@[simp] theorem updI_same {α} (f : Int → α) (i : Int) (v : α) : updI f i v i = v := by simp [updI]
@[simp] theorem updI_other {α} (f : Int → α) (i j : Int) (v : α) (h : j ≠ i) : updI f i v j = f j := by simp [updI, h]

/-! ## the step function as a relation with one constructor per branch (for case analysis)

Which steps write which field (a clause of an invariant is at stake only in the steps that write a field it reads):
 * `callers`: `pc` the seventeen steps of the caller itself (`startSubmit` … `closeCancel`); `box` `takeResp`, `wDeliver`;
   `answered` `peerAnswer`; `ownDone` `deadline`; `kind`, `seq`, `after` none
 * `pending`: `startSubmit`, `finishSubmit`, `finishClose`;  `wire`: `writeOk`, `wNackSend`
 * `inbound`: `wReadOk/Bad/Fatal` take its head (to `readLog`), `peerAnswer/Unsol/Bad/Fatal` append to it
 * `watch`: Watch's fifteen steps but `wOfferPanic`;  `missLog`: `wLookupMiss`;  `delivered`: `wOffer`;
   `queueClosed`: `wExit`;  `panicked`: `wOfferPanic`, `wExitPanic`
 * `connDone`: `closeCancel`, `wExit`, `wExitPanic`, `cancelParent`;  `writeBroken`: `closeTransportOk`, `breakWrites`;
   `readSide`: `closeTransportOk`, `transportEOF`, `transportErr`;  `draining`: `setDrain`
 * `ka`: the eight steps `kaStart` … `kaTick`;  `tickerStopped`: `kaSubmitFail` -/

def setCaller (s : State) (i : Nat) (c : Caller) : State := { s with callers := upd s.callers i c }

inductive Step : State → Label → State → Prop where
  | startSubmit (s : State) (i : Nat) : (s.callers i).pc = .idle → predDone s i = true → (s.callers i).kind ≠ .send →
      Step s (.start i) { setPc s i .registered with pending := updI s.pending (s.callers i).seq (some i) }
  | startSend (s : State) (i : Nat) : (s.callers i).pc = .idle → predDone s i = true → (s.callers i).kind = .send →
      Step s (.start i) (setPc s i .registered)
  | checkBad (s : State) (i : Nat) : (s.callers i).pc = .registered → (s.callers i).seq ≤ 0 →
      Step s (.check i) (setPc s i (.leaving (.err .invalidSeq)))
  | checkOk (s : State) (i : Nat) : (s.callers i).pc = .registered → 0 < (s.callers i).seq →
      Step s (.check i) (setPc s i .checked)
  | writeBroken (s : State) (i : Nat) : (s.callers i).pc = .checked → s.writeBroken = true →
      Step s (.write i) (setPc s i (.leaving (.err .write)))
  | writeOk (s : State) (i : Nat) : (s.callers i).pc = .checked → s.writeBroken = false →
      Step s (.write i) { setPc s i .wrote with wire := s.wire ++ [.req i (s.callers i).seq] }
  | writeRetSend (s : State) (i : Nat) : (s.callers i).pc = .wrote → (s.callers i).kind = .send →
      Step s (.writeRet i) (setPc s i (.leaving .sent))
  | writeRetWait (s : State) (i : Nat) : (s.callers i).pc = .wrote → (s.callers i).kind ≠ .send →
      Step s (.writeRet i) (setPc s i .waiting)
  | takeResp (s : State) (i : Nat) (p : InPdu) : (s.callers i).pc = .waiting → (s.callers i).box = some p →
      Step s (.takeResp i) { s with callers := upd s.callers i { s.callers i with pc := .leaving (.resp p), box := none } }
  | seeConnDone (s : State) (i : Nat) : (s.callers i).pc = .waiting → s.connDone = true →
      Step s (.seeConnDone i) (setPc s i (.leaving (.err .closed)))
  | seeOwnDone (s : State) (i : Nat) : (s.callers i).pc = .waiting → (s.callers i).ownDone = true →
      Step s (.seeOwnDone i) (setPc s i (.leaving (.err .ctx)))
  | finishSend (s : State) (i : Nat) (r : Result) : (s.callers i).pc = .leaving r → (s.callers i).kind = .send →
      Step s (.finish i) (setPc s i (.done r))
  | finishSubmit (s : State) (i : Nat) (r : Result) : (s.callers i).pc = .leaving r → (s.callers i).kind = .submit →
      Step s (.finish i) { setPc s i (.done r) with pending := updI s.pending (s.callers i).seq none }
  | finishClose (s : State) (i : Nat) (r : Result) : (s.callers i).pc = .leaving r → (s.callers i).kind = .close →
      Step s (.finish i) { setPc s i (.closing r) with pending := updI s.pending (s.callers i).seq none }
  | closeTransportOk (s : State) (i : Nat) (p : InPdu) : (s.callers i).pc = .closing (.resp p) →
      Step s (.closeTransport i) { setPc s i (.cancelling (.resp p)) with writeBroken := true, readSide := (if s.readSide = Transport.open then Transport.err else s.readSide) }
  | closeTransportSkip (s : State) (i : Nat) (r : Result) : (s.callers i).pc = .closing r → (∀ p, r ≠ .resp p) →
      Step s (.closeTransport i) (setPc s i (.cancelling r))
  | closeCancel (s : State) (i : Nat) (r : Result) : (s.callers i).pc = .cancelling r →
      Step s (.closeCancel i) { setPc s i (.done r) with connDone := true }
  | wPoll (s : State) : s.watch = .poll → Step s .wPoll { s with watch := if s.connDone then .exiting else .reading }
  | wReadOk (s : State) (p : InPdu) (rest : List InFrame) : s.watch = .reading → s.inbound = .ok p :: rest →
      Step s .wRead { s with inbound := rest, readLog := s.readLog ++ [.ok p], watch := .looking p }
  | wReadBad (s : State) (seq : Int) (k : Nat) (rest : List InFrame) : s.watch = .reading → s.inbound = .bad seq k :: rest →
      Step s .wRead { s with inbound := rest, readLog := s.readLog ++ [.bad seq k], watch := .nacking seq }
  | wReadFatal (s : State) (rest : List InFrame) : s.watch = .reading → s.inbound = .fatal :: rest →
      Step s .wRead { s with inbound := rest, readLog := s.readLog ++ [.fatal], watch := .exiting }
  | wReadEnd (s : State) : s.watch = .reading → s.inbound = [] → s.readSide ≠ Transport.open →
      Step s .wRead { s with watch := .exiting }
  | wLookupHit (s : State) (p : InPdu) (i : Nat) : s.watch = .looking p → s.pending p.seq = some i →
      Step s .wLookup { s with watch := .delivering i p }
  | wLookupMiss (s : State) (p : InPdu) : s.watch = .looking p → s.pending p.seq = none →
      Step s .wLookup { s with watch := .offering p, missLog := s.missLog ++ [p] }
  | wDeliver (s : State) (i : Nat) (p : InPdu) : s.watch = .delivering i p → (s.callers i).box = none →
      Step s .wDeliver { s with callers := upd s.callers i { s.callers i with box := some p }, watch := .poll }
  | wOfferPanic (s : State) (p : InPdu) : s.watch = .offering p → s.queueClosed = true →
      Step s .wOffer { s with panicked := true }
  | wOffer (s : State) (p : InPdu) : s.watch = .offering p → s.queueClosed = false → s.draining = true →
      Step s .wOffer { s with delivered := s.delivered ++ [p], watch := .poll }
  | wOfferCancel (s : State) (p : InPdu) : s.watch = .offering p → s.connDone = true →
      Step s .wOfferCancel { s with watch := .exiting }
  | wNackSkip (s : State) (seq : Int) : s.watch = .nacking seq → (seq ≤ 0 ∨ s.writeBroken = true) →
      Step s .wNack { s with watch := .poll }
  | wNackSend (s : State) (seq : Int) : s.watch = .nacking seq → 0 < seq → s.writeBroken = false →
      Step s .wNack { s with watch := .poll, wire := s.wire ++ [.nack seq] }
  | wExitPanic (s : State) : s.watch = .exiting → s.queueClosed = true →
      Step s .wExit { s with panicked := true, watch := .returned, connDone := true }
  | wExit (s : State) : s.watch = .exiting → s.queueClosed = false →
      Step s .wExit { s with queueClosed := true, watch := .returned, connDone := true }
  | kaStart (s : State) : s.ka = .off → Step s .kaStart { s with ka := .idle }
  | kaSend (s : State) (i : Nat) : s.ka = .idle → (s.callers i).pc = .idle → (s.callers i).kind = .submit →
      Step s (.kaSend i) { s with ka := .submitting i }
  | kaSubmitOk (s : State) (i : Nat) (p : InPdu) : s.ka = .submitting i → (s.callers i).pc = .done (.resp p) →
      Step s .kaSubmitDone { s with ka := .select }
  | kaSubmitFail (s : State) (i : Nat) (r : Result) : s.ka = .submitting i → (s.callers i).pc = .done r → (∀ p, r ≠ .resp p) →
      Step s .kaSubmitDone { s with ka := .failed, tickerStopped := true }
  | kaClose (s : State) (j : Nat) : s.ka = .failed → (s.callers j).pc = .idle → (s.callers j).kind = .close →
      Step s (.kaClose j) { s with ka := .closing j }
  | kaCloseDone (s : State) (j : Nat) : s.ka = .closing j → (s.callers j).pc.isDone = true →
      Step s .kaCloseDone { s with ka := .select }
  | kaExit (s : State) : s.ka = .select → s.connDone = true → Step s .kaExit { s with ka := .returned }
  | kaTick (s : State) : s.ka = .select → s.tickerStopped = false → Step s .kaTick { s with ka := .idle }
  | peerAnswer (s : State) (i : Nat) : (OutFrame.req i (s.callers i).seq) ∈ s.wire → (s.callers i).answered = false →
      Step s (.peerAnswer i) { s with callers := upd s.callers i { s.callers i with answered := true }, inbound := s.inbound ++ [.ok ⟨(s.callers i).seq, .ans i⟩] }
  | peerUnsol (s : State) (seq : Int) (k : Nat) : Step s (.peerUnsol seq k) { s with inbound := s.inbound ++ [.ok ⟨seq, .peer k⟩] }
  | peerBad (s : State) (seq : Int) (k : Nat) : Step s (.peerBad seq k) { s with inbound := s.inbound ++ [.bad seq k] }
  | peerFatal (s : State) : Step s .peerFatal { s with inbound := s.inbound ++ [.fatal] }
  | transportEOF (s : State) : Step s .transportEOF { s with readSide := (if s.readSide = Transport.open then Transport.eof else s.readSide) }
  | transportErr (s : State) : Step s .transportErr { s with readSide := (if s.readSide = Transport.open then Transport.err else s.readSide) }
  | cancelParent (s : State) : Step s .cancelParent { s with connDone := true }
  | deadline (s : State) (i : Nat) : Step s (.deadline i) { s with callers := upd s.callers i { s.callers i with ownDone := true } }
  | setDrain (s : State) (b : Bool) : Step s (.setDrain b) { s with draining := b }
  | breakWrites (s : State) : Step s .breakWrites { s with writeBroken := true }

/-- the executable step function refines the relation: every branch of `step` is one constructor of `Step`, whose
premises are the guards on the way to that branch (`fun_cases` collects them, `constructor` finds the constructor by the
label and the shape of the new state; where the new state is itself an `if`, one more `split`) -/
theorem step_sound (s s' : State) (l : Label) (h : step s l = some s') : Step s l s' := by
  revert h
  fun_cases step s l <;> intro h <;> cases h <;> try first
    | (constructor <;> first | assumption | (simp_all +zetaDelta; done))
    | (split <;> constructor <;> first | assumption | (simp_all +zetaDelta; done))
  -- left: `finish`, three constructors under two nested `if`s on the kind of call
  rename_i i _ _ _ _
  cases hk : (s.callers i).kind <;> simp +zetaDelta only [hk] <;> constructor <;> assumption

/-! ## a caller record after an update of the call table

A step rewrites at most one entry of `callers`, and in it one or two fields.  Read through `upd`, a field the
step did not write is the old one, for every index: with these handed to `simp only` (the premise is closed by `rfl`)
a clause about fields the step did not touch is again the old clause.

Twenty of the fifty steps rewrite an entry: the caller's seventeen, `wDeliver`, `peerAnswer` and `deadline`; the other thirty
leave the table as it is.  A case analysis over `Step` names the steps at which its clause is at stake (`case …`) and ends in
`all_goals first | … | …` for the rest: unless said otherwise, the first alternative is the old clause as it stands, for the
steps that write nothing the clause reads; the second is for the rest of the twenty, a clause about `pc` taken through
`upd_pc_of` / `of_upd_pc`, whose last argument evaluates the predicate at the old `pc` (the step's premise, which
`simp [*, …]` finds) and at the new one. -/

section upd
variable {f : Nat → Caller} {i : Nat} {c : Caller}

theorem upd_kind (h : c.kind = (f i).kind) (j : Nat) : (upd f i c j).kind = (f j).kind := by
  unfold upd; split <;> simp_all
theorem upd_seq (h : c.seq = (f i).seq) (j : Nat) : (upd f i c j).seq = (f j).seq := by
  unfold upd; split <;> simp_all
theorem upd_after (h : c.after = (f i).after) (j : Nat) : (upd f i c j).after = (f j).after := by
  unfold upd; split <;> simp_all
theorem upd_pc (h : c.pc = (f i).pc) (j : Nat) : (upd f i c j).pc = (f j).pc := by
  unfold upd; split <;> simp_all
theorem upd_ownDone (h : c.ownDone = (f i).ownDone) (j : Nat) : (upd f i c j).ownDone = (f j).ownDone := by
  unfold upd; split <;> simp_all
theorem upd_box (h : c.box = (f i).box) (j : Nat) : (upd f i c j).box = (f j).box := by
  unfold upd; split <;> simp_all
theorem upd_answered (h : c.answered = (f i).answered) (j : Nat) : (upd f i c j).answered = (f j).answered := by
  unfold upd; split <;> simp_all

/-- a clause about the program counter after a step that rewrote call `i`: for `i` it is to be shown of the new `pc`
from the old one, for every other call it is the old clause -/
theorem upd_pc_of {φ : Pc → Prop} {j : Nat} (h : φ (f j).pc) (hi : φ (f i).pc → φ c.pc) : φ (upd f i c j).pc := by
  unfold upd; split
  · subst j; exact hi h
  · exact h

theorem of_upd_pc {φ : Pc → Prop} {j : Nat} (h : φ (upd f i c j).pc) (hi : φ c.pc → φ (f i).pc) : φ (f j).pc := by
  unfold upd at h; split at h
  · subst j; exact hi h
  · exact h

theorem upd_pc_iff {φ : Pc → Prop} {j : Nat} (hi : φ c.pc ↔ φ (f i).pc) : φ (upd f i c j).pc ↔ φ (f j).pc :=
  ⟨fun h => of_upd_pc h hi.mp, fun h => upd_pc_of h hi.mpr⟩

theorem upd_pc_new {φ : Pc → Prop} {j : Nat} (h : φ (upd f i c j).pc) (hn : ¬ φ (f j).pc) : j = i ∧ φ c.pc := by
  unfold upd at h; split at h
  · exact ⟨‹_›, h⟩
  · exact absurd h hn

end upd

/-! ## facts about a single step, each used by several of the clauses below -/

/-- `p` is on its way to call `i`, or has arrived: Watch is delivering it, it is in the call's slot, or it is the call's result -/
def heldFor (s : State) (i : Nat) (p : InPdu) : Prop :=
  s.watch = .delivering i p ∨ (s.callers i).box = some p ∨ (s.callers i).pc.result? = some (.resp p)

/-- a PDU comes to be held for call `i` only by Watch finding `i` registered under its number; from there it moves to the
slot (`wDeliver`) and on to the result (`takeResp`) -/
theorem heldFor_step {s s' : State} {l : Label} (hs : Step s l s') (j : Nat) (p : InPdu) (h : heldFor s' j p) :
    heldFor s j p ∨ (s.watch = .looking p ∧ s.pending p.seq = some j) := by
  cases hs
  case wLookupHit hw hp => exact h.elim (fun h => by cases h; exact .inr ⟨hw, hp⟩) fun h => .inl (.inr h)
  case wDeliver i p' hw _ =>
    by_cases hj : j = i
    · rcases h with h | h | h
      · cases h
      · obtain rfl : p' = p := by simpa [hj] using h
        exact .inl (.inl (hj ▸ hw))
      · exact .inl (.inr (.inr (by simpa only [upd_pc] using h)))
    · exact .inl (.inr (by simpa only [upd_other _ _ _ _ hj] using h.resolve_left nofun))
  case takeResp i p' _ hb =>
    by_cases hj : j = i
    · rcases h with h | h | h
      · exact .inl (.inl h)
      · simp [hj] at h
      · obtain rfl : p' = p := by simpa [hj, Pc.result?] using h
        exact .inl (.inr (.inl (hj ▸ hb)))
    · exact .inl (by simpa only [heldFor, upd_other _ _ _ _ hj] using h)
  case wPoll => exact .inl (.inr (h.resolve_left fun h => by split at h <;> cases h))
  all_goals first
    | exact .inl h
    -- the rest of the twenty keep the slot, and the result if there was one; a result decided now is an error or `sent`
    | exact .inl (h.imp id (Or.imp (by simp only [setPc, upd_box]; exact id)
        fun h => of_upd_pc (φ := (·.result? = _)) h (by simp [*, Pc.result?])))
    -- Watch's other steps do not end in `delivering`, and leave the table alone
    | exact .inl (.inr (h.resolve_left nofun))

/-- every place an inbound PDU can be -/
def located (s : State) (p : InPdu) : Prop :=
  InFrame.ok p ∈ s.inbound ∨ s.watch = .looking p ∨ (∃ j, s.watch = .delivering j p) ∨ s.watch = .offering p ∨
  (∃ j, (s.callers j).box = some p) ∨ (∃ j, (s.callers j).pc.result? = some (.resp p)) ∨ p ∈ s.missLog ∨ p ∈ s.delivered

/-- `p` is on Watch's side: unread, looked up, on offer, logged as unclaimed, or delivered to the application -/
def transit (s : State) (p : InPdu) : Prop :=
  InFrame.ok p ∈ s.inbound ∨ s.watch = .looking p ∨ s.watch = .offering p ∨ p ∈ s.missLog ∨ p ∈ s.delivered

theorem located_iff {s : State} {p : InPdu} : located s p ↔ transit s p ∨ ∃ j, heldFor s j p := by
  unfold located transit heldFor
  grind

theorem heldFor.located {s : State} {i : Nat} {p : InPdu} (h : heldFor s i p) : located s p :=
  located_iff.mpr (.inr ⟨i, h⟩)

theorem transit_step {s s' : State} {l : Label} (hs : Step s l s') (p : InPdu) (h : transit s' p) :
    transit s p ∨ (∃ i, l = .peerAnswer i ∧ p = ⟨(s.callers i).seq, .ans i⟩) ∨ (∃ q k, l = .peerUnsol q k ∧ p = ⟨q, .peer k⟩) := by
  unfold transit at h ⊢
  cases hs
  -- the two steps that bring a PDU in: it is the new last element of `inbound`, or it was there before
  case peerAnswer i _ _ =>
    rcases h with h | h
    · rcases List.mem_append.mp h with h | h
      · exact .inl (.inl h)
      · exact .inr (.inl ⟨i, rfl, by simpa using h⟩)
    · exact .inl (.inr h)
  case peerUnsol q k =>
    rcases h with h | h
    · rcases List.mem_append.mp h with h | h
      · exact .inl (.inl h)
      · exact .inr (.inr ⟨q, k, rfl, by simpa using h⟩)
    · exact .inl (.inr h)
  -- Watch's steps move a PDU along: unread → `looking` (wReadOk) → `offering` and the miss log (wLookupMiss) → delivered (wOffer),
  -- or off Watch's side to a call (wLookupHit); its other steps change `watch` between values that hold no PDU; the rest leave all five alone
  all_goals first
    | exact .inl h
    | grind

/-- PDUs enter only at the peer's steps; every other step moves them or leaves them where they are -/
theorem located_step {s s' : State} {l : Label} (hs : Step s l s') (p : InPdu) (h : located s' p) :
    located s p ∨ (∃ i, l = .peerAnswer i ∧ p = ⟨(s.callers i).seq, .ans i⟩) ∨ (∃ q k, l = .peerUnsol q k ∧ p = ⟨q, .peer k⟩) := by
  rcases located_iff.mp h with ht | ⟨j, hh⟩
  · exact (transit_step hs p ht).imp_left fun h => located_iff.mpr (.inl h)
  · rcases heldFor_step hs j p hh with h | ⟨hw, _⟩
    · exact .inl h.located
    · exact .inl (.inr (.inl hw))

/-- the four flags that are only ever raised (one case analysis; `connDone_mono` … `answered_mono` read it) -/
theorem flags_mono {s s' : State} {l : Label} (hs : Step s l s') :
    (s.connDone = true → s'.connDone = true) ∧ (s.writeBroken = true → s'.writeBroken = true) ∧
    ∀ i, ((s.callers i).ownDone = true → (s'.callers i).ownDone = true) ∧
      ((s.callers i).answered = true → (s'.callers i).answered = true) := by
  cases hs
  case closeCancel => exact ⟨fun _ => rfl, id, fun j => by simp only [setPc, upd_ownDone, upd_answered]; exact ⟨id, id⟩⟩
  case wExitPanic | wExit | cancelParent => exact ⟨fun _ => rfl, id, fun _ => ⟨id, id⟩⟩
  case closeTransportOk => exact ⟨id, fun _ => rfl, fun j => by simp only [setPc, upd_ownDone, upd_answered]; exact ⟨id, id⟩⟩
  case breakWrites => exact ⟨id, fun _ => rfl, fun _ => ⟨id, id⟩⟩
  case deadline | peerAnswer => exact ⟨id, id, fun j => by simp only [upd]; split <;> simp_all⟩
  all_goals exact ⟨id, id, fun j => by simp only [setPc, upd_ownDone, upd_answered]; exact ⟨id, id⟩⟩

theorem connDone_mono {s s' : State} {l : Label} (hs : Step s l s') : s.connDone = true → s'.connDone = true :=
  (flags_mono hs).1
theorem writeBroken_mono {s s' : State} {l : Label} (hs : Step s l s') : s.writeBroken = true → s'.writeBroken = true :=
  (flags_mono hs).2.1
theorem ownDone_mono {s s' : State} {l : Label} (hs : Step s l s') (i : Nat) :
    (s.callers i).ownDone = true → (s'.callers i).ownDone = true :=
  ((flags_mono hs).2.2 i).1
theorem answered_mono {s s' : State} {l : Label} (hs : Step s l s') (i : Nat) :
    (s.callers i).answered = true → (s'.callers i).answered = true :=
  ((flags_mono hs).2.2 i).2

theorem isDone_mono {s s' : State} {l : Label} (hs : Step s l s') (j : Nat) (h : (s.callers j).pc.isDone = true) :
    (s'.callers j).pc.isDone = true := by
  cases hs <;> first
    | exact h
    | exact upd_pc_of (φ := (·.isDone = true)) h (by simp [*, Pc.isDone])

theorem started_step {s s' : State} {l : Label} (hs : Step s l s') (j : Nat) (h : (s'.callers j).pc ≠ .idle) :
    (s.callers j).pc ≠ .idle ∨ l = .start j := by
  cases hs
  case startSubmit i _ _ _ | startSend i _ _ _ =>
    by_cases hj : j = i
    · exact Or.inr (hj ▸ rfl)
    · simp only [setPc, upd_other _ _ _ _ hj] at h; exact Or.inl h
  all_goals first
    | exact Or.inl h
    | exact Or.inl (of_upd_pc (φ := (· ≠ .idle)) h (by simp [*]))

theorem wire_step {s s' : State} {l : Label} (hs : Step s l s') :
    s'.wire = s.wire ∨ (∃ i, (s.callers i).pc = .checked ∧ s'.wire = s.wire ++ [.req i (s.callers i).seq]) ∨
      ∃ q, s'.wire = s.wire ++ [.nack q] := by
  cases hs
  case writeOk i hpc _ => exact .inr (.inl ⟨i, hpc, rfl⟩)
  case wNackSend q _ _ _ => exact .inr (.inr ⟨q, rfl⟩)
  all_goals exact .inl rfl

/-! ## invariant 1: the pending table, response slots and results carry the right sequence numbers -/

structure Inv1 (tbl : Nat → Caller) (s : State) : Prop where
  static : ∀ i, (s.callers i).kind = (tbl i).kind ∧ (s.callers i).seq = (tbl i).seq ∧ (s.callers i).after = (tbl i).after
  pendSound : ∀ q i, s.pending q = some i → (tbl i).seq = q ∧ (tbl i).kind ≠ .send ∧ (s.callers i).pc.active = true
  pendComplete : ∀ i, (tbl i).kind ≠ .send → (s.callers i).pc.active = true → s.pending (tbl i).seq = some i
  boxSeq : ∀ i p, (s.callers i).box = some p → p.seq = (tbl i).seq
  watchSeq : ∀ i p, s.watch = .delivering i p → p.seq = (tbl i).seq
  resultSeq : ∀ i p, (s.callers i).pc.result? = some (.resp p) → p.seq = (tbl i).seq

theorem Inv1.kind {tbl} {s : State} (h : Inv1 tbl s) (i : Nat) : (s.callers i).kind = (tbl i).kind := (h.static i).1
theorem Inv1.seq {tbl} {s : State} (h : Inv1 tbl s) (i : Nat) : (s.callers i).seq = (tbl i).seq := (h.static i).2.1
theorem Inv1.after {tbl} {s : State} (h : Inv1 tbl s) (i : Nat) : (s.callers i).after = (tbl i).after := (h.static i).2.2

theorem inv1_static {tbl} {s s' : State} {l : Label} (hi : Inv1 tbl s) (hs : Step s l s') :
    ∀ i, (s'.callers i).kind = (tbl i).kind ∧ (s'.callers i).seq = (tbl i).seq ∧ (s'.callers i).after = (tbl i).after := by
  have hst := hi.static
  cases hs <;> intro j <;> simp only [setPc, upd_kind, upd_seq, upd_after] <;> exact hst j

/-- the pending table holds exactly the calls between register and unregister, under their own numbers: table and program
counter change together, at `start` and `finish` -/
theorem inv1_pending {tbl} (hd : Distinct tbl) {s s' : State} {l : Label} (hi : Inv1 tbl s) (hs : Step s l s') :
    (∀ q i, s'.pending q = some i → (tbl i).seq = q ∧ (tbl i).kind ≠ .send ∧ (s'.callers i).pc.active = true) ∧
      ∀ i, (tbl i).kind ≠ .send → (s'.callers i).pc.active = true → s'.pending (tbl i).seq = some i := by
  -- the entry of another registered call is not the one written or removed
  have hne : ∀ i j, j ≠ i → (tbl j).kind ≠ .send → (s.callers i).kind ≠ .send → (tbl j).seq ≠ (s.callers i).seq :=
    fun i j hj hk hk' => by rw [hi.seq i]; exact hd j i hj hk (by rwa [← hi.kind i])
  cases hs
  case startSubmit i _ _ hk' =>
    refine ⟨fun q j hq => ?_, fun j hk ha => ?_⟩
    · by_cases hqi : q = (s.callers i).seq
      · obtain rfl : i = j := by simpa [hqi] using hq
        exact ⟨by rw [hqi, hi.seq i], by rwa [← hi.kind i], by simp [setPc, Pc.active]⟩
      · simp only [updI_other _ _ _ _ hqi] at hq
        exact ⟨(hi.pendSound q j hq).1, (hi.pendSound q j hq).2.1,
          upd_pc_of (φ := (·.active = true)) (hi.pendSound q j hq).2.2 fun _ => rfl⟩
    · by_cases hj : j = i
      · rw [hj, ← hi.seq i]; exact updI_same _ _ _
      · simp only [setPc, upd_other _ _ _ _ hj] at ha
        simp only [updI_other _ _ _ _ (hne i j hj hk hk')]; exact hi.pendComplete j hk ha
  case startSend i _ _ hk' | finishSend i _ _ hk' =>
    -- a Send call has no entry
    have hj : ∀ j, (tbl j).kind ≠ .send → j ≠ i := fun j hk e => hk (by rwa [e, ← hi.kind i])
    refine ⟨fun q j hq => ?_, fun j hk ha => ?_⟩
    · obtain ⟨a, b, c⟩ := hi.pendSound q j hq
      exact ⟨a, b, by simpa only [setPc, upd_other _ _ _ _ (hj j b)] using c⟩
    · simp only [setPc, upd_other _ _ _ _ (hj j hk)] at ha; exact hi.pendComplete j hk ha
  case finishSubmit i _ _ hk' | finishClose i _ _ hk' =>
    refine ⟨fun q j hq => ?_, fun j hk ha => ?_⟩
    · by_cases hqi : q = (s.callers i).seq
      · simp [hqi] at hq
      · simp only [updI_other _ _ _ _ hqi] at hq
        obtain ⟨a, b, c⟩ := hi.pendSound q j hq
        have hj : j ≠ i := fun e => hqi (by rw [← a, e, hi.seq i])
        exact ⟨a, b, by simpa only [setPc, upd_other _ _ _ _ hj] using c⟩
    · by_cases hj : j = i
      · simp [hj, setPc, Pc.active] at ha
      · simp only [setPc, upd_other _ _ _ _ hj] at ha
        simp only [updI_other _ _ _ _ (hne i j hj hk (by simp [hk']))]; exact hi.pendComplete j hk ha
  -- a call's other steps keep it registered, or unregistered
  all_goals first
    | exact ⟨hi.pendSound, hi.pendComplete⟩
    | exact ⟨fun q j hq => ⟨(hi.pendSound q j hq).1, (hi.pendSound q j hq).2.1,
          upd_pc_of (φ := (·.active = true)) (hi.pendSound q j hq).2.2 (by simp [*, Pc.active])⟩,
        fun j hk ha => hi.pendComplete j hk (of_upd_pc (φ := (·.active = true)) ha (by simp [*, Pc.active]))⟩

theorem Inv1.heldSeq {tbl : Nat → Caller} {s : State} (hi : Inv1 tbl s) {i : Nat} {p : InPdu} (h : heldFor s i p) :
    p.seq = (tbl i).seq :=
  h.elim (hi.watchSeq i p) fun h => h.elim (hi.boxSeq i p) (hi.resultSeq i p)

theorem inv1_init (tbl) (hf : Fresh tbl) : Inv1 tbl (init tbl) := by
  constructor <;> simp [init, hf.pc, hf.box, Pc.active, Pc.result?]

theorem inv1_step {tbl} (hd : Distinct tbl) {s s' : State} {l : Label} (hi : Inv1 tbl s) (hs : Step s l s') : Inv1 tbl s' :=
  have held : ∀ i p, heldFor s' i p → p.seq = (tbl i).seq := fun i p h =>
    (heldFor_step hs i p h).elim hi.heldSeq fun h => (hi.pendSound _ i h.2).1.symm
  have pend := inv1_pending hd hi hs
  ⟨inv1_static hi hs, pend.1, pend.2, fun i p h => held i p (.inr (.inl h)), fun i p h => held i p (.inl h),
    fun i p h => held i p (.inr (.inr h))⟩

/-! ## invariant 2: what is on the wire, who was answered, where an answer can be -/

def Pc.pastCheck : Pc → Bool
  | .checked => true
  | pc => pc.pastWrite

theorem Pc.pastCheck_of_pastWrite {pc : Pc} (h : pc.pastWrite = true) : pc.pastCheck = true := by
  cases pc <;> first | rfl | exact h

structure Inv2 (tbl : Nat → Caller) (s : State) : Prop where
  answeredWire : ∀ i, (s.callers i).answered = true → OutFrame.req i (tbl i).seq ∈ s.wire
  wireSeq : ∀ i q, OutFrame.req i q ∈ s.wire → q = (tbl i).seq ∧ (s.callers i).pc.pastWrite = true
  pastWriteWire : ∀ i, (s.callers i).pc.pastWrite = true → OutFrame.req i (tbl i).seq ∈ s.wire
  checkedPos : ∀ i, (s.callers i).pc.pastCheck = true → 0 < (tbl i).seq
  origin : ∀ p i, located s p → p.origin = .ans i → p.seq = (tbl i).seq ∧ (s.callers i).answered = true

theorem inv2_answeredWire {tbl} {s s' : State} {l : Label} (h1 : Inv1 tbl s) (hi : Inv2 tbl s) (hs : Step s l s') :
    ∀ i, (s'.callers i).answered = true → OutFrame.req i (tbl i).seq ∈ s'.wire := by
  cases hs <;> intro j ha
  case peerAnswer i hw _ =>
    by_cases hj : j = i
    · rw [hj, ← h1.seq i]; exact hw
    · simp only [upd_other _ _ _ _ hj] at ha; exact hi.answeredWire j ha
  all_goals simp only [setPc, upd_answered] at ha
  case writeOk | wNackSend => exact List.mem_append_left _ (hi.answeredWire j ha)
  all_goals exact hi.answeredWire j ha

/-- a request frame is on the wire exactly for the calls past their Write: the two change together, at `writeOk` -/
theorem inv2_wire {tbl} {s s' : State} {l : Label} (h1 : Inv1 tbl s) (hi : Inv2 tbl s) (hs : Step s l s') :
    (∀ i q, OutFrame.req i q ∈ s'.wire → q = (tbl i).seq ∧ (s'.callers i).pc.pastWrite = true) ∧
      ∀ i, (s'.callers i).pc.pastWrite = true → OutFrame.req i (tbl i).seq ∈ s'.wire := by
  cases hs
  case writeOk i _ _ =>
    refine ⟨fun j q ha => ?_, fun j ha => ?_⟩
    · rcases List.mem_append.mp ha with h | h
      · exact ⟨(hi.wireSeq j q h).1, upd_pc_of (φ := (·.pastWrite = true)) (hi.wireSeq j q h).2 fun _ => rfl⟩
      · obtain ⟨rfl, rfl⟩ : j = i ∧ q = (s.callers i).seq := by simpa using h
        exact ⟨h1.seq j, by simp [setPc, Pc.pastWrite]⟩
    · by_cases hj : j = i
      · rw [hj, ← h1.seq i]; exact List.mem_append_right _ (List.mem_singleton_self _)
      · simp only [setPc, upd_other _ _ _ _ hj] at ha; exact List.mem_append_left _ (hi.pastWriteWire j ha)
  case wNackSend => exact ⟨fun j q ha => hi.wireSeq j q (by simpa using ha), fun j ha => List.mem_append_left _ (hi.pastWriteWire j ha)⟩
  all_goals first
    | exact ⟨hi.wireSeq, hi.pastWriteWire⟩
    | exact ⟨fun j q ha => ⟨(hi.wireSeq j q ha).1, upd_pc_of (φ := (·.pastWrite = true)) (hi.wireSeq j q ha).2
          (by simp [*, Pc.pastWrite, Result.afterWrite])⟩,
        fun j ha => hi.pastWriteWire j (of_upd_pc (φ := (·.pastWrite = true)) ha (by simp [*, Pc.pastWrite, Result.afterWrite]))⟩

theorem inv2_checkedPos {tbl} {s s' : State} {l : Label} (h1 : Inv1 tbl s) (hi : Inv2 tbl s) (hs : Step s l s') :
    ∀ i, (s'.callers i).pc.pastCheck = true → 0 < (tbl i).seq := by
  cases hs <;> intro j ha
  case checkOk i _ hq =>
    by_cases hj : j = i
    · rw [hj, ← h1.seq i]; exact hq
    · simp only [setPc, upd_other _ _ _ _ hj] at ha; exact hi.checkedPos j ha
  all_goals first
    | exact hi.checkedPos j ha
    | exact hi.checkedPos j (of_upd_pc (φ := (·.pastCheck = true)) ha
        (by simp [*, Pc.pastCheck, Pc.pastWrite, Result.afterWrite]))

theorem inv2_origin {tbl} {s s' : State} {l : Label} (h1 : Inv1 tbl s) (hi : Inv2 tbl s) (hs : Step s l s') :
    ∀ p i, located s' p → p.origin = .ans i → p.seq = (tbl i).seq ∧ (s'.callers i).answered = true := by
  intro p i hl ho
  rcases located_step hs p hl with h | ⟨k, rfl, rfl⟩ | ⟨q, k, rfl, rfl⟩
  · exact ⟨(hi.origin p i h ho).1, answered_mono hs i (hi.origin p i h ho).2⟩
  · cases ho
    cases hs
    exact ⟨h1.seq i, by simp⟩
  · cases ho

theorem inv2_step {tbl} {s s' : State} {l : Label} (h1 : Inv1 tbl s) (hi : Inv2 tbl s) (hs : Step s l s') : Inv2 tbl s' :=
  have wire := inv2_wire h1 hi hs
  ⟨inv2_answeredWire h1 hi hs, wire.1, wire.2, inv2_checkedPos h1 hi hs, inv2_origin h1 hi hs⟩

theorem located_init (tbl) (hf : Fresh tbl) (p : InPdu) : ¬ located (init tbl) p := by
  simp [located, init, hf.pc, hf.box, Pc.result?]

theorem inv2_init (tbl) (hf : Fresh tbl) : Inv2 tbl (init tbl) := by
  refine ⟨?_, ?_, ?_, ?_, fun p i hl => absurd hl (located_init tbl hf p)⟩ <;>
    simp [init, hf.pc, hf.answered, Pc.pastWrite, Pc.pastCheck]

/-! ## invariant 3: no leak, the miss log against what was delivered, teardown safety, calls of one goroutine in turn -/

def okPdus (l : List InFrame) : List InPdu := l.filterMap fun f => match f with | .ok p => some p | _ => none

/-- the PDU Watch has on offer, resp. is looking up, if any — as a list, so that it can be appended to a log -/
def offerTail (s : State) : List InPdu := match s.watch with | .offering p => [p] | _ => []
def lookTail (s : State) : List InPdu := match s.watch with | .looking p => [p] | _ => []

def WatchPc.inLoop : WatchPc → Bool
  | .exiting | .returned => false
  | _ => true

structure Inv3 (tbl : Nat → Caller) (s : State) : Prop where
  noLeak : ∀ p i, p ∈ s.missLog → p.origin = .ans i → (tbl i).kind ≠ .send → (s.callers i).pc.departed = true
  missExact : s.watch.inLoop = true → s.missLog = s.delivered ++ offerTail s
  missBound : s.delivered <+: s.missLog ∧ s.missLog.length ≤ s.delivered.length + 1
  noPanic : s.panicked = false
  qClosed : s.queueClosed = true → s.watch = .returned
  watchDone : s.watch = .returned → s.connDone = true ∧ s.queueClosed = true
  closeDone : ∀ i, (tbl i).kind = .close → (s.callers i).pc.isDone = true → s.connDone = true
  startedPred : ∀ j i, (s.callers j).pc ≠ .idle → (tbl j).after = some i → (s.callers i).pc.isDone = true

theorem inv3_noLeak {tbl} {s s' : State} {l : Label} (h1 : Inv1 tbl s) (h2 : Inv2 tbl s) (hi : Inv3 tbl s) (hs : Step s l s') :
    ∀ p i, p ∈ s'.missLog → p.origin = .ans i → (tbl i).kind ≠ .send → (s'.callers i).pc.departed = true := by
  have hnl := hi.noLeak
  cases hs <;> intro p j hm ho hk
  case wLookupMiss p1 hw hp =>
    rcases List.mem_append.mp hm with h | h
    · exact hnl p j h ho hk
    · -- the answer to call `j` finds no waiter: `j` is past its write and no longer registered
      obtain rfl := List.mem_singleton.mp h
      obtain ⟨hseq, hans⟩ := h2.origin p j (Or.inr (Or.inl hw)) ho
      have hpw := (h2.wireSeq j _ (h2.answeredWire j hans)).2
      have hna : (s.callers j).pc.active ≠ true := fun ha => by
        have := h1.pendComplete j hk ha
        rw [← hseq, hp] at this
        cases this
      revert hpw hna
      cases (s.callers j).pc <;> simp [Pc.pastWrite, Pc.active, Pc.departed]
  all_goals first
    | exact hnl p j hm ho hk
    | exact upd_pc_of (φ := (·.departed = true)) (hnl p j hm ho hk) (by simp [*, Pc.departed])

theorem inv3_teardown {tbl} {s s' : State} {l : Label} (hi : Inv3 tbl s) (hs : Step s l s') :
    s'.panicked = false ∧ (s'.queueClosed = true → s'.watch = .returned) ∧ (s'.watch = .returned → s'.connDone = true ∧ s'.queueClosed = true) := by
  have hnp := hi.noPanic
  have hqc := hi.qClosed
  have hwd := hi.watchDone
  cases hs
  -- a send on, or a second close of, the closed queue: but Watch has returned
  case wOfferPanic hw hq | wExitPanic hw hq => rw [hqc hq] at hw; cases hw
  case wExit => exact ⟨hnp, fun _ => rfl, fun _ => ⟨rfl, rfl⟩⟩
  case closeCancel | cancelParent => exact ⟨hnp, hqc, fun h => ⟨rfl, (hwd h).2⟩⟩
  case wPoll hw => exact ⟨hnp, (fun h => nomatch (hqc h).symm.trans hw), fun h => by split at h <;> cases h⟩
  -- Watch's other steps stay inside its loop, where the queue is open
  all_goals first
    | exact ⟨hnp, hqc, hwd⟩
    | exact ⟨hnp, (fun h => by cases (hqc h).symm.trans ‹s.watch = _›), nofun⟩

theorem inv3_closeDone {tbl} {s s' : State} {l : Label} (h1 : Inv1 tbl s) (hi : Inv3 tbl s) (hs : Step s l s') :
    ∀ i, (tbl i).kind = .close → (s'.callers i).pc.isDone = true → s'.connDone = true := by
  cases hs <;> intro j hk hd
  -- a call that returns by `finish` is no Close call
  case finishSend i _ _ hk' | finishSubmit i _ _ hk' =>
    by_cases hj : j = i
    · rw [hj, ← h1.kind i, hk'] at hk; cases hk
    · simp only [setPc, upd_other _ _ _ _ hj] at hd; exact hi.closeDone j hk hd
  case closeCancel | wExitPanic | wExit | cancelParent => rfl
  -- no other step of a call ends in `done`
  all_goals first
    | exact hi.closeDone j hk hd
    | exact hi.closeDone j hk (of_upd_pc (φ := (·.isDone = true)) hd (by simp [*, Pc.isDone]))

theorem inv3_startedPred {tbl} {s s' : State} {l : Label} (h1 : Inv1 tbl s) (hi : Inv3 tbl s) (hs : Step s l s') :
    ∀ j i, (s'.callers j).pc ≠ .idle → (tbl j).after = some i → (s'.callers i).pc.isDone = true := by
  intro j i hp ha
  refine isDone_mono hs i ?_
  rcases started_step hs j hp with h | rfl
  · exact hi.startedPred j i h ha
  · have : predDone s j = true := by cases hs <;> assumption
    simpa [predDone, h1.after j, ha] using this

/-- while Watch is in its loop the miss log is what was delivered plus the PDU on offer; after that neither changes -/
theorem inv3_miss {tbl} {s s' : State} {l : Label} (hi : Inv3 tbl s) (hs : Step s l s') :
    (s'.watch.inLoop = true → s'.missLog = s'.delivered ++ offerTail s') ∧
      s'.delivered <+: s'.missLog ∧ s'.missLog.length ≤ s'.delivered.length + 1 := by
  have hme := hi.missExact
  have hmb := hi.missBound
  cases hs
  case wLookupMiss hw _ | wOffer hw _ _ =>
    have := hme (by rw [hw]; rfl)
    simp [offerTail, hw] at this
    simp [offerTail, this]
  case wPoll hw => exact ⟨fun _ => by cases s.connDone <;> simpa [offerTail, hw] using hme (by rw [hw]; rfl), hmb⟩
  -- Watch leaves its loop
  case wReadFatal | wReadEnd | wOfferCancel | wExitPanic | wExit => exact ⟨fun h => Bool.noConfusion h, hmb⟩
  -- Watch's other steps stay in the loop, with nothing on offer before or after
  all_goals first
    | exact ⟨hme, hmb⟩
    | exact ⟨fun _ => by simpa only [offerTail, ‹s.watch = _›] using hme (by rw [‹s.watch = _›]; rfl), hmb⟩

theorem inv3_step {tbl} {s s' : State} {l : Label} (h1 : Inv1 tbl s) (h2 : Inv2 tbl s) (hi : Inv3 tbl s) (hs : Step s l s') :
    Inv3 tbl s' :=
  have td := inv3_teardown hi hs
  have miss := inv3_miss hi hs
  ⟨inv3_noLeak h1 h2 hi hs, miss.1, miss.2, td.1, td.2.1, td.2.2, inv3_closeDone h1 hi hs, inv3_startedPred h1 hi hs⟩

theorem inv3_init (tbl) (hf : Fresh tbl) : Inv3 tbl (init tbl) := by
  constructor <;> simp [init, hf.pc, offerTail, Pc.isDone]

/-! ## invariant 4: the miss log against what was read, the wire -/

def reqId : OutFrame → Option Nat
  | .req i _ => some i
  | .nack _ => none

/-- no frame of a later call of a goroutine precedes a frame of an earlier call of the same goroutine -/
def OrderOK (tbl : Nat → Caller) (a b : OutFrame) : Prop :=
  ∀ i j qi qj, a = .req j qj → b = .req i qi → (tbl j).after ≠ some i

structure Inv4 (tbl : Nat → Caller) (s : State) : Prop where
  missSub : (s.missLog ++ lookTail s).Sublist (okPdus s.readLog)
  wireNodup : (s.wire.filterMap reqId).Nodup
  wireOrder : s.wire.Pairwise (OrderOK tbl)

theorem inv4_missSub {tbl} {s s' : State} {l : Label} (hi : Inv4 tbl s) (hs : Step s l s') :
    (s'.missLog ++ lookTail s').Sublist (okPdus s'.readLog) := by
  have hms := hi.missSub
  cases hs
  case wReadOk hw _ | wReadBad hw _ | wReadFatal hw _ =>
    simpa [lookTail, hw, okPdus] using hms
  case wLookupHit =>
    simp only [lookTail, List.append_nil]
    exact (List.sublist_append_left _ _).trans hms
  case wPoll hw => cases s.connDone <;> simpa [lookTail, hw] using hms
  case wLookupMiss hw _ => simpa [lookTail, hw] using hms
  -- Watch's other steps neither start nor end at `looking`
  all_goals first
    | exact hms
    | (simp only [lookTail, ‹s.watch = _›] at hms ⊢; exact hms)

theorem mem_reqId {w : List OutFrame} {i : Nat} (h : i ∈ w.filterMap reqId) : ∃ q, OutFrame.req i q ∈ w := by
  obtain ⟨f, hf, hi⟩ := List.mem_filterMap.mp h
  cases f <;> cases hi
  exact ⟨_, hf⟩

theorem inv4_wireNodup {tbl} {s s' : State} {l : Label} (h2 : Inv2 tbl s) (hi : Inv4 tbl s) (hs : Step s l s') :
    (s'.wire.filterMap reqId).Nodup := by
  rcases wire_step hs with e | ⟨i, hpc, e⟩ | ⟨q, e⟩ <;> rw [e]
  · exact hi.wireNodup
  · -- the call is at `checked`: none of its frames is on the wire yet
    have : i ∉ s.wire.filterMap reqId := fun h => by
      obtain ⟨q, hq⟩ := mem_reqId h
      have := (h2.wireSeq i q hq).2
      simp [hpc, Pc.pastWrite] at this
    rw [List.filterMap_append]
    refine List.nodup_append.mpr ⟨hi.wireNodup, by simp [reqId], fun a ha b hb hab => ?_⟩
    cases List.mem_singleton.mp hb
    exact this (hab ▸ ha)
  · rw [List.filterMap_append, show List.filterMap reqId [OutFrame.nack q] = [] from rfl, List.append_nil]
    exact hi.wireNodup

theorem inv4_wireOrder {tbl} {s s' : State} {l : Label} (h2 : Inv2 tbl s) (h3 : Inv3 tbl s) (hi : Inv4 tbl s) (hs : Step s l s') :
    s'.wire.Pairwise (OrderOK tbl) := by
  rcases wire_step hs with e | ⟨i, hpc, e⟩ | ⟨q, e⟩ <;> rw [e]
  · exact hi.wireOrder
  · refine List.pairwise_append.mpr ⟨hi.wireOrder, by simp, fun a ha b hb => ?_⟩
    -- a call `j` with a frame on the wire has started, so the call it comes after has returned: that is not `i`
    cases List.mem_singleton.mp hb
    rintro _ j _ qj rfl ⟨⟩ haft
    have hpw := (h2.wireSeq j qj ha).2
    have := h3.startedPred j i (fun h => by simp [h, Pc.pastWrite] at hpw) haft
    simp [hpc, Pc.isDone] at this
  · refine List.pairwise_append.mpr ⟨hi.wireOrder, by simp, fun a _ b hb => ?_⟩
    cases List.mem_singleton.mp hb
    exact fun _ _ _ _ _ h => nomatch h

theorem inv4_step {tbl} {s s' : State} {l : Label} (h2 : Inv2 tbl s) (h3 : Inv3 tbl s) (hi : Inv4 tbl s) (hs : Step s l s') :
    Inv4 tbl s' :=
  ⟨inv4_missSub hi hs, inv4_wireNodup h2 hi hs, inv4_wireOrder h2 h3 hi hs⟩

theorem inv4_init (tbl) : Inv4 tbl (init tbl) := by
  constructor <;> simp [init, lookTail]

/-! ## NACK accounting -/

def isNack : OutFrame → Bool
  | .nack _ => true
  | _ => false

def nackTail (s : State) : List OutFrame := match s.watch with
  | .nacking q => if 0 < q then [.nack q] else []
  | _ => []

def badSeqs (l : List InFrame) : List Int := l.filterMap fun f => match f with
  | .bad q _ => if 0 < q then some q else none
  | _ => none

/-- while writes work: one generic_nack per undecodable frame with a positive sequence number, in order -/
def NackInv (s : State) : Prop :=
  s.writeBroken = false → s.wire.filter isNack ++ nackTail s = (badSeqs s.readLog).map OutFrame.nack

theorem nack_step {s s' : State} {l : Label} (hi : NackInv s) (hs : Step s l s') : NackInv s' := by
  unfold NackInv at hi ⊢
  cases hs <;> simp only [setPc] <;> intro hb
  case wReadOk hw _ | wReadFatal hw _ =>
    simpa [nackTail, hw, badSeqs] using hi hb
  case wReadBad q k rest hw hin =>
    have := hi hb
    simp only [nackTail, hw, List.append_nil] at this
    simp only [nackTail, badSeqs, this]
    by_cases hq : 0 < q <;> simp [hq]
  case wNackSkip q hw hq =>
    rcases hq with hq | hq
    · simpa [nackTail, hw, Int.not_lt.mpr hq] using hi hb
    · rw [hq] at hb; cases hb
  case wNackSend q hw hq _ =>
    simpa [nackTail, hw, hq, show List.filter isNack [OutFrame.nack q] = [OutFrame.nack q] from rfl] using hi hb
  case writeOk => simpa [nackTail, isNack] using hi hb
  case wPoll hw => cases s.connDone <;> simpa [nackTail, hw] using hi hb
  case closeTransportOk | breakWrites => cases hb
  -- Watch's other steps neither start nor end at `nacking`
  all_goals first
    | exact hi hb
    | (simpa only [nackTail, ‹s.watch = _›] using hi hb)

theorem inv_all (tbl) (hd : Distinct tbl) (hf : Fresh tbl) (s : State) (h : Reach tbl s) :
    Inv1 tbl s ∧ Inv2 tbl s ∧ Inv3 tbl s ∧ Inv4 tbl s := by
  induction h with
  | init => exact ⟨inv1_init tbl hf, inv2_init tbl hf, inv3_init tbl hf, inv4_init tbl⟩
  | step l _ _ hs ih =>
    have hst := step_sound _ _ _ hs
    obtain ⟨i1, i2, i3, i4⟩ := ih
    exact ⟨inv1_step hd i1 hst, inv2_step i1 i2 hst, inv3_step i1 i2 i3 hst, inv4_step i2 i3 i4 hst⟩

theorem inv1 (tbl) (hd : Distinct tbl) (hf : Fresh tbl) (s : State) (h : Reach tbl s) : Inv1 tbl s :=
  (inv_all tbl hd hf s h).1

theorem inv2 (tbl) (hd : Distinct tbl) (hf : Fresh tbl) (s : State) (h : Reach tbl s) : Inv2 tbl s :=
  (inv_all tbl hd hf s h).2.1

theorem inv3 (tbl) (hd : Distinct tbl) (hf : Fresh tbl) (s : State) (h : Reach tbl s) : Inv3 tbl s :=
  (inv_all tbl hd hf s h).2.2.1

theorem inv4 (tbl) (hd : Distinct tbl) (hf : Fresh tbl) (s : State) (h : Reach tbl s) : Inv4 tbl s :=
  (inv_all tbl hd hf s h).2.2.2

theorem nack_inv (tbl) (s : State) (h : Reach tbl s) : NackInv s := by
  induction h with
  | init => intro _; simp [init, nackTail, badSeqs]
  | step l hr ha hs ih => exact nack_step ih (step_sound _ _ _ hs)

/-! ## the keep-alive goroutine -/

/-- the keep-alive goroutine: once its ticker is stopped (a keep-alive failed) it can only be waiting with the connection
context already done — so its `select` has a ready case and the loop returns -/
structure InvKa (tbl : Nat → Caller) (s : State) : Prop where
  running : (s.ka = .off ∨ s.ka = .idle ∨ ∃ i, s.ka = .submitting i) → s.tickerStopped = false
  closingKind : ∀ j, s.ka = .closing j → (tbl j).kind = .close
  stoppedDone : s.ka = .select → s.tickerStopped = true → s.connDone = true

theorem invKa_step {tbl} {s s' : State} {l : Label} (h1 : Inv1 tbl s) (h3 : Inv3 tbl s) (hi : InvKa tbl s) (hs : Step s l s') :
    InvKa tbl s' := by
  obtain ⟨hr, hk, hsd⟩ := hi
  cases hs
  case kaStart hka => exact ⟨fun _ => hr (.inl hka), nofun, nofun⟩
  case kaSend i hka _ _ => exact ⟨fun _ => hr (.inr (.inl hka)), nofun, nofun⟩
  case kaSubmitOk i _ hka _ =>
    -- the ticker is still running
    exact ⟨by simp, nofun, fun _ ht => by rw [hr (.inr (.inr ⟨i, hka⟩))] at ht; cases ht⟩
  case kaClose j _ _ hkind => exact ⟨by simp, fun _ h => by cases h; rw [← h1.kind j]; exact hkind, nofun⟩
  case kaCloseDone j hka hdone => exact ⟨by simp, nofun, fun _ _ => h3.closeDone j (hk j hka) hdone⟩
  case kaSubmitFail | kaExit => exact ⟨by simp, nofun, nofun⟩
  case kaTick _ hts => exact ⟨fun _ => hts, nofun, nofun⟩
  case closeCancel | wExitPanic | wExit | cancelParent => exact ⟨hr, hk, fun _ _ => rfl⟩
  all_goals exact ⟨hr, hk, hsd⟩

theorem invKa_init (tbl) : InvKa tbl (init tbl) := by
  constructor <;> simp [init]

theorem invKa (tbl) (hd : Distinct tbl) (hf : Fresh tbl) (s : State) (h : Reach tbl s) : InvKa tbl s := by
  induction h with
  | init => exact invKa_init tbl
  | step l hr ha hs ih =>
    obtain ⟨i1, _, i3, _⟩ := inv_all tbl hd hf _ hr
    exact invKa_step i1 i3 ih (step_sound _ _ _ hs)

end Smpp.Conn

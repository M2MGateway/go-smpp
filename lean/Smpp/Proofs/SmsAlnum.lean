/-
GSM 03.40 §9.1.2.5 alphanumeric addresses: the specification's septet packing (zero fill bits, `Spec.Gsm0340.packSeptets`)
coincides with the library's packing (`Gsm7.pack`) whenever the library adds no CR filler, and the length arithmetic of the
address field for the septet counts outside the known deviation class (C19).
-/
import Smpp.Proofs.Gsm7Text
import Smpp.Spec.Gsm0340

namespace Smpp.Sms
open Smpp.Gsm7 Smpp.Spec.Gsm0340 Smpp.Generated

theorem zipIdx_sum (o : List Bool) : ∀ k : Nat,
    ((o.zipIdx k).map fun (x, i) => if x then 2 ^ i else 0).sum = 2 ^ k * ofBitsLE o := by
  induction o with
  | nil => simp [ofBitsLE]
  | cons b r ih =>
    intro k
    simp only [List.zipIdx_cons, List.map_cons, List.sum_cons, ih (k + 1), ofBitsLE]
    cases b
    · simp only [Bool.false_eq_true, ↓reduceIte, Nat.pow_succ, Nat.zero_add, Nat.mul_assoc]
    · simp only [↓reduceIte, Nat.pow_succ, Nat.mul_add, Nat.mul_one, Nat.mul_assoc]

theorem ofBitsLE_append_false (l : List Bool) (n : Nat) : ofBitsLE (l ++ List.replicate n false) = ofBitsLE l := by
  induction l with
  | nil =>
    induction n with
    | zero => rfl
    | succ n ih => simp only [List.nil_append] at ih; simp [List.replicate_succ, ofBitsLE, ih]
  | cons b r ih => simp [ofBitsLE, ih]

/-- zero fill bits up to an octet boundary, however their number is written -/
theorem bitsToOctets_pad (l : List Bool) (p : Nat) (hp : (l.length + p) % 8 = 0) (hp8 : p < 8) :
    bitsToOctets l = (chunks 7 (l ++ List.replicate p false)).map (fun c => UInt8.ofNat (ofBitsLE c)) := by
  fun_induction bitsToOctets l generalizing p with
  | case1 => simp [show p = 0 by simpa [Nat.mod_eq_of_lt hp8] using hp, chunks_short 7 [] (by decide)]
  | case2 b r o v ih =>
    have hv : v = ofBitsLE o := by simpa [v] using zipIdx_sum o 0
    simp only [List.length_cons] at hp
    have hle : 7 + 1 ≤ (b :: r ++ List.replicate p false).length := by
      simp only [List.length_append, List.length_cons, List.length_replicate]; omega
    -- the first octet takes `o` and perhaps some fill bits; what fill is left goes with the rest
    rw [chunks_of_le hle, List.map_cons, List.take_append, List.drop_append, List.take_replicate,
      List.drop_replicate, ofBitsLE_append_false, List.drop_succ_cons, hv,
      ih (p - (7 + 1 - (b :: r).length)) (by simp only [List.length_cons, List.length_drop]; omega) (by omega)]

/-- the specification's packing (zero fill bits) is the library's packing whenever the library adds no CR filler -/
theorem packSeptets_eq_pack (s : List Nat) (h : s.length % 8 ≠ 7) : packSeptets s = pack s := by
  unfold packSeptets pack
  have hb : septetBits = bitsLE 7 := funext fun x => (bitsLE_range 7 x).symm
  simp only [h, ↓reduceIte, hb]
  exact bitsToOctets_pad _ _ (by omega) (by omega)

/-- an alphanumeric address of the property's domain outside the known deviation class: a text of the GSM default alphabet
whose septet count (escape pairs count two) is 1, 2, 3, 8, 9, 10 or 11 (4..7 is the known finding C19-alnum-length; 11 septets
fill the 10 octets = 20 semi-octets an address field may have) -/
structure AlnumAddr (t s : List Nat) : Prop where
  septets : toSeptets gsmReverse gsmEscapes t = some s
  len : s.length ∈ [1, 2, 3, 8, 9, 10, 11]

theorem AlnumAddr.mod8 {t s : List Nat} (h : AlnumAddr t s) : s.length % 8 ≠ 7 :=
  (by decide : ∀ n ∈ [1, 2, 3, 8, 9, 10, 11], n % 8 ≠ 7) _ h.len

theorem alnum_encode_pack (t s : List Nat) (h : AlnumAddr t s) :
    encode gsmReverse gsmEscapes t = some (pack s) ∧ (pack s).length = (7 * s.length + 7) / 8 ∧ pack s ≠ [] ∧ t ≠ [] := by
  have hpos : 0 < s.length := (by decide : ∀ n ∈ [1, 2, 3, 8, 9, 10, 11], 0 < n) _ h.len
  have hne : t ≠ [] := by
    rintro rfl
    cases h.septets
    exact absurd hpos (by decide)
  have hl := pack_length s
  refine ⟨?_, hl, fun h0 => ?_, hne⟩
  · simp only [encode, List.isEmpty_eq_false_iff.mpr hne, Bool.false_eq_true, ↓reduceIte, h.septets, Option.map_some]
  · rw [h0, List.length_nil] at hl
    omega

theorem alnum_halflen : ∀ n ∈ [1, 2, 3, 8, 9, 10, 11],
    ((UInt8.ofNat ((7 * n + 3) / 4) + 1) / 2).toNat = (7 * n + 7) / 8 ∧ UInt8.ofNat ((7 * n + 3) / 4) ≠ 0 := by decide

end Smpp.Sms

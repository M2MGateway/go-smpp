/-
Bit-stream lemmas for the GSM 7-bit packer: little-endian bit lists, chunking.
-/
import Smpp.Model.Gsm7

namespace Smpp.Gsm7

@[simp] theorem bitsLE_length (w x : Nat) : (bitsLE w x).length = w := by
  induction w generalizing x with
  | zero => rfl
  | succ w ih => simp [bitsLE, ih]

theorem ofBitsLE_bitsLE (w x : Nat) : ofBitsLE (bitsLE w x) = x % 2 ^ w := by
  induction w generalizing x with
  | zero => simp [bitsLE, ofBitsLE, Nat.mod_one]
  | succ w ih =>
    rw [bitsLE, ofBitsLE, ih, Nat.pow_succ', Nat.mod_mul]
    rcases Nat.mod_two_eq_zero_or_one x with h | h <;> simp [h]

theorem ofBitsLE_lt (l : List Bool) : ofBitsLE l < 2 ^ l.length := by
  induction l with
  | nil => simp [ofBitsLE]
  | cons b l ih =>
    simp only [ofBitsLE, List.length_cons]
    split <;> omega

theorem bitsLE_ofBitsLE (l : List Bool) : bitsLE l.length (ofBitsLE l) = l := by
  induction l with
  | nil => rfl
  | cons b l ih =>
    rw [List.length_cons, bitsLE, ofBitsLE]
    cases b
    · simp [ih]
    · simp [Nat.add_mul_div_left, ih]

theorem bitsLE_range (w x : Nat) : bitsLE w x = (List.range w).map fun i => x / 2 ^ i % 2 == 1 := by
  induction w generalizing x with
  | zero => rfl
  | succ w ih =>
    rw [bitsLE, ih, List.range_succ_eq_map]
    simp [Nat.pow_succ', Nat.div_div_eq_div_mul]

theorem chunks_of_le {k : Nat} {l : List Bool} (h : k + 1 ≤ l.length) :
    chunks k l = l.take (k + 1) :: chunks k (l.drop (k + 1)) := by
  rw [chunks, dif_pos h]

theorem chunks_short (k : Nat) (l : List Bool) (h : l.length < k + 1) : chunks k l = [] := by
  rw [chunks, dif_neg (by omega)]

theorem length_of_mem_chunks {k : Nat} {l c : List Bool} (hc : c ∈ chunks k l) : c.length = k + 1 := by
  induction l using chunks.induct k with
  | case1 l h ih =>
    rw [chunks_of_le h] at hc
    rcases List.mem_cons.mp hc with rfl | hc
    · rw [List.length_take, Nat.min_eq_left h]
    · exact ih hc
  | case2 l h => rw [chunks_short k l (by omega)] at hc; cases hc

theorem chunks_count (k : Nat) (l : List Bool) : (chunks k l).length = l.length / (k + 1) := by
  induction l using chunks.induct k with
  | case1 l h ih => rw [chunks_of_le h, List.length_cons, ih, List.length_drop, ← Nat.div_eq_sub_div (by omega) h]
  | case2 l h => rw [chunks_short k l (by omega), Nat.div_eq_of_lt (by omega)]; rfl

theorem flatten_chunks (k : Nat) (l : List Bool) (hm : l.length % (k + 1) = 0) : (chunks k l).flatten = l := by
  induction l using chunks.induct k with
  | case1 l h ih =>
    rw [chunks_of_le h, List.flatten_cons, ih (by rw [List.length_drop, ← Nat.mod_eq_sub_mod h, hm]),
      List.take_append_drop]
  | case2 l h =>
    rw [Nat.mod_eq_of_lt (by omega)] at hm
    rw [chunks_short k l (by omega), List.length_eq_zero_iff.mp hm]
    rfl

theorem chunks_cons (k : Nat) (c rest : List Bool) (hc : c.length = k + 1) :
    chunks k (c ++ rest) = c :: chunks k rest := by
  rw [chunks_of_le (by simp; omega), ← hc, List.take_left', List.drop_left'] <;> rfl

theorem chunks_flatten (k : Nat) (L : List (List Bool)) (tail : List Bool)
    (hL : ∀ c ∈ L, c.length = k + 1) (ht : tail.length < k + 1) :
    chunks k (L.flatten ++ tail) = L := by
  induction L with
  | nil => simpa using chunks_short k tail ht
  | cons c L ih =>
    simp only [List.flatten_cons, List.append_assoc]
    rw [chunks_cons k c _ (hL c (by simp)), ih (fun x hx => hL x (by simp [hx]))]

end Smpp.Gsm7

/-
Agreement between the sms model and the independent GSM 03.40 layout, in three layers:
what each reader returns on input of the shape a writer produces; `Codec`, a reader/writer pair that
agrees with a specification field on one value; `FieldAgrees` / `Agrees`, the same for one step and for
a whole run of the two reflection walks, from which `unmarshal_marshal` gives whole TPDUs.
-/
import Smpp.Proofs.SmsTotal
import Smpp.Spec.Gsm0340
import Smpp.Proofs.TimeProofs
import Smpp.Proofs.Bytes

namespace Smpp.Sms
open Smpp.Time Smpp.Spec.Gsm0340

/-- no hypothesis on `a`: a zero-length Read succeeds even at end of input -/
theorem rdN_append (a rest : Bytes) : rdN a.length (a ++ rest) = .ok (a, rest) := by
  cases a with
  | nil => rfl
  | cons x xs => simp [rdN]

theorem readAddr_cons {rev escs} {l k npi ton : UInt8} {data rest : Bytes} {no : List Nat} (h0 : l ≠ 0)
    (hn : ((l + 1) / 2).toNat = data.length) (hnpi : k &&& (0x0F : UInt8) = npi)
    (hton : (k >>> (4 : UInt8)) &&& (0x07 : UInt8) = ton) (hd : decodeNo rev escs ton data = .ok no) :
    readAddr rev escs (l :: k :: data ++ rest) = .ok (⟨npi, ton, no⟩, rest) := by
  subst hnpi hton
  simp only [readAddr, List.cons_append, rdByte, h0, ↓reduceIte, hn, rdN_append, hd]

theorem readSCAddr_cons {rev escs} {l k npi ton : UInt8} {data rest : Bytes} {no : List Nat} (h0 : l ≠ 0)
    (hn : l.toNat - 1 = data.length) (hnpi : k &&& (0x0F : UInt8) = npi)
    (hton : (k >>> (4 : UInt8)) &&& (0x07 : UInt8) = ton) (hd : decodeNo rev escs ton data = .ok no) :
    readSCAddr rev escs (l :: k :: data ++ rest) = .ok (⟨npi, ton, no⟩, rest) := by
  subst hnpi hton
  simp only [readSCAddr, List.cons_append, rdByte, h0, ↓reduceIte, hn, rdN_append, hd]

theorem readTime_blocks {data rest : Bytes} {y mo d h mi s z : Nat} (hlen : data.length = 7)
    (hb : decodeSemi data = [y, mo, d, h, mi, s, z]) :
    readTime (data ++ rest) = .ok (GoDate.norm ⟨(2000 + y : Nat), mo, d, h, mi, s, 0, (z : Int) * 900⟩, rest) := by
  unfold readTime
  rw [← hlen, rdN_append]
  simp only [hb, hlen, List.length_cons, List.length_nil, ne_eq, not_true_eq_false, ↓reduceIte, idx,
    List.getElem?_cons_zero, List.getElem?_cons_succ, Nat.reduceAdd, Int.natCast_add]
  rfl

theorem readRel_cons (n : UInt8) (rest : Bytes) : readRel (n :: rest) = .ok (relToSecs n.toNat, rest) := by
  simp [readRel, rdN]

theorem writeEnh_rel (d : Nat) : writeEnh d 1 = .ok [1, secsToRel d, 0, 0, 0, 0, 0] := by
  simp [writeEnh, mkZeros]

theorem writeEnh_secs (d : Nat) : writeEnh d 2 = .ok [2, UInt8.ofNat d, 0, 0, 0, 0, 0] := by
  simp [writeEnh, mkZeros]

/-- what `getType` needs of the SC address field in front of an SMS-DELIVER: its length octet counts the rest, which is not empty -/
def ScShape (b : Bytes) : Prop := ∃ l body, b = l :: body ∧ l.toNat = body.length ∧ 0 < body.length

/-- behind a non-empty SC address field the direction is MT (`+ 0`) -/
theorem getType_sc {l : UInt8} {body : Bytes} {fo x : UInt8} {rest : Bytes} (hl : l.toNat = body.length) (hpos : 0 < body.length) :
    getType (l :: (body ++ fo :: x :: rest)) = .ok ((fo.toNat % 4 * 2 + 0) % 8, x.toNat > 127) := by
  have h1 : ¬ ((l :: (body ++ fo :: x :: rest)).length < l.toNat + 3) := by
    simp only [List.length_cons, List.length_append]; omega
  have i1 : (l :: (body ++ fo :: x :: rest))[l.toNat + 1]? = some fo := by rw [hl]; simp
  have i2 : (l :: (body ++ fo :: x :: rest))[l.toNat + 2]? = some x := by rw [hl]; simp
  have hz : ¬ (l.toNat = 0) := by omega
  simp only [getType, h1, ↓reduceIte, idx, i1, i2, hz]

/-- … and without one MO (`+ 1`) -/
theorem getType_nosc (fo mr : UInt8) (rest : Bytes) :
    getType (0 :: fo :: mr :: rest) = .ok ((fo.toNat % 4 * 2 + 1) % 8, mr.toNat > 127) := by
  simp [getType, idx]

theorem setDirection_getD_succ (dir : Nat) (ks : List FlagKind) (v : List Nat) (i x : Nat) :
    (setDirection dir ks v).getD (i + 1) x = v.getD (i + 1) x := by
  unfold setDirection; split <;> rfl

theorem addressField_eq_cons (a : Address) : ∃ x t, addressField a = x :: t := by
  unfold addressField; split <;> exact ⟨_, _, rfl⟩

theorem ofNat_ne {n : Nat} {k : UInt8} (hn : n < 256) (h : n ≠ k.toNat) : UInt8.ofNat n ≠ k :=
  fun e => h (by rw [← e, u8_ofNat_toNat (by omega)])

theorem nibbles {hi lo : Nat} (hhi : hi < 16) (hlo : lo < 16) :
    (UInt8.ofNat (hi * 16 + lo)).toNat / 16 = hi ∧ (UInt8.ofNat (hi * 16 + lo)).toNat % 16 = lo := by
  rw [u8_ofNat_toNat (by omega)]
  omega

theorem decodeSemi_bcd (vs : List Nat) (h : ∀ v ∈ vs, v < 100) : decodeSemi (vs.map bcdSwapped) = vs := by
  induction vs with
  | nil => rfl
  | cons v vs ih =>
    obtain ⟨hv, hvs⟩ := List.forall_mem_cons.mp h
    obtain ⟨h1, h2⟩ := nibbles (hi := v % 10) (lo := v / 10) (by omega) (by omega)
    have h3 : v % 10 ≠ 15 := by omega
    simp only [List.map_cons, decodeSemi, bcdSwapped, h1, h2, h3, ↓reduceIte, Nat.div_add_mod', ih hvs]

theorem pack_nibbles : ∀ a b : Fin 10,
    ((UInt8.ofNat b.val) <<< (4 : UInt8)) ||| UInt8.ofNat a.val = UInt8.ofNat (b.val * 16 + a.val) := by decide +kernel

theorem pack_filler : ∀ a : Fin 10, (0xF0 : UInt8) ||| UInt8.ofNat a.val = UInt8.ofNat (15 * 16 + a.val) := by
  decide +kernel

theorem encodeSemi_bcd (vs : List Nat) (h : ∀ v ∈ vs, v < 100) :
    encodeSemi (vs.map fun v => ((v : Nat) : Int)) = vs.map bcdSwapped := by
  unfold encodeSemi
  induction vs with
  | nil => rfl
  | cons v vs ih =>
    obtain ⟨hv, hvs⟩ := List.forall_mem_cons.mp h
    have hc := (chunk_digits (show v < 1000 by omega)).trans (if_pos hv)
    have hp : ((UInt8.ofNat (v % 10)) <<< (4 : UInt8)) ||| UInt8.ofNat (v / 10) = bcdSwapped v :=
      pack_nibbles ⟨v / 10, by omega⟩ ⟨v % 10, by omega⟩
    simp only [List.map_cons, toDigits, hc, List.cons_append, List.nil_append, packDigits, hp, ih hvs]

theorem packDigits_spec (ds : List Nat) (h : ∀ d ∈ ds, d ≤ 9) :
    packDigits (ds.map fun d => UInt8.ofNat d) = semiOctets ds := by
  fun_induction semiOctets ds with
  | case1 a b r ih =>
    obtain ⟨ha, hb, hr⟩ : a ≤ 9 ∧ b ≤ 9 ∧ ∀ d ∈ r, d ≤ 9 := by simpa using h
    simp only [List.map_cons, packDigits, ih hr, pack_nibbles ⟨a, by omega⟩ ⟨b, by omega⟩]
  | case2 a =>
    have ha : a ≤ 9 := h a (by simp)
    simp only [List.map_cons, List.map_nil, packDigits, pack_filler ⟨a, by omega⟩]
  | case3 => rfl

theorem decodeSemiAddress_spec (ds : List Nat) (h : ∀ d ∈ ds, d ≤ 9) :
    decodeSemiAddress (semiOctets ds) = ds.map (· + 48) := by
  fun_induction semiOctets ds with
  | case1 a b r ih =>
    obtain ⟨ha, hb, hr⟩ : a ≤ 9 ∧ b ≤ 9 ∧ ∀ d ∈ r, d ≤ 9 := by simpa using h
    obtain ⟨h1, h2⟩ := nibbles (hi := b) (lo := a) (by omega) (by omega)
    have h3 : b ≠ 15 := by omega
    simp only [decodeSemiAddress, List.map_cons, h1, h2, h3, ↓reduceIte, ih hr, Nat.add_comm 48]
  | case2 a =>
    have ha : a ≤ 9 := h a (by simp)
    obtain ⟨h1, h2⟩ := nibbles (hi := 15) (lo := a) (by omega) (by omega)
    simp only [decodeSemiAddress, List.map_cons, List.map_nil, h1, h2, ↓reduceIte, Nat.add_comm 48]
  | case3 => rfl

theorem semiOctets_length (ds : List Nat) : (semiOctets ds).length = (ds.length + 1) / 2 := by
  fun_induction semiOctets ds with
  | case1 a b r ih => simp [ih]; omega
  | case2 a | case3 => simp

theorem encodeSemiAddress_digits (ds : List Nat) (h : ∀ d ∈ ds, d ≤ 9) :
    encodeSemiAddress (ds.map (· + 48)) = some (semiOctets ds) := by
  have hall : (ds.map (· + 48)).all (fun r => decide (48 ≤ r) && decide (r ≤ 57)) = true := by
    simp only [List.all_map, List.all_eq_true]
    intro d hd
    have := h d hd
    simp; omega
  simp only [encodeSemiAddress, hall, ↓reduceIte, List.map_map, Function.comp_def, Nat.add_sub_cancel, packDigits_spec ds h]

theorem utf8Len_digits (ds : List Nat) (h : ∀ d ∈ ds, d ≤ 9) : ((ds.map (· + 48)).map utf8Len).sum = ds.length := by
  induction ds with
  | nil => rfl
  | cons d r ih =>
    obtain ⟨hd, hr⟩ := List.forall_mem_cons.mp h
    have : utf8Len (d + 48) = 1 := by unfold utf8Len; simp; omega
    simp only [List.map_cons, List.sum_cons, List.length_cons, this, ih hr]
    omega

/-- the octets `b` (a field as the specification lays it out) are read as `a` whatever follows, and `a` is written as `b` -/
structure Codec {α : Type} (rd : Bytes → R (α × Bytes)) (wr : α → Bytes) (b : Bytes) (a : α) : Prop where
  read : ∀ rest, rd (b ++ rest) = .ok (a, rest)
  write : wr a = b

theorem noSC_codec (rev escs) : Codec (readSCAddr rev escs) (writeSCAddr rev escs) [0] Addr.zero :=
  ⟨fun rest => by simp [readSCAddr, rdByte], by simp [writeSCAddr, Addr.zero]⟩

theorem toa_bits : ∀ t : Fin 8, ∀ n : Fin 16,
    (toa t.val n.val &&& (0x0F : UInt8)) = UInt8.ofNat n.val ∧
    ((toa t.val n.val >>> (4 : UInt8)) &&& (0x07 : UInt8)) = UInt8.ofNat t.val ∧
    ((UInt8.ofNat n.val &&& (0x0F : UInt8)) ||| ((UInt8.ofNat t.val &&& (0x07 : UInt8)) <<< (4 : UInt8)) ||| (0x80 : UInt8)) = toa t.val n.val := by
  decide +kernel

theorem decodeNo_digits (rev escs) {ton : Nat} {ds : List Nat} (hton : ton < 8 ∧ ton ≠ 5) (hds : ∀ d ∈ ds, d ≤ 9) :
    decodeNo rev escs (UInt8.ofNat ton) (semiOctets ds) = .ok (ds.map (· + 48)) := by
  simp only [decodeNo, ofNat_ne (k := 5) (by omega) hton.2, ne_eq, not_false_eq_true, ↓reduceIte, decodeSemiAddress_spec ds hds]

section numeric
variable (rev : List Nat) (escs : List (Nat × Nat)) {a : Address} {ds : List Nat} (hv : a.value = .digits ds)
  (hton : a.ton < 8 ∧ a.ton ≠ 5) (hnpi : a.npi < 16) (hds : ∀ d ∈ ds, d ≤ 9)
include hton hnpi hds

theorem addrBinary_digits : addrBinary rev escs ⟨UInt8.ofNat a.npi, UInt8.ofNat a.ton, ds.map (· + 48)⟩
    = UInt8.ofNat ((ds.length + 1) / 2) :: toa a.ton a.npi :: semiOctets ds := by
  simp only [addrBinary, ofNat_ne (k := 5) (by omega) hton.2, ne_eq, not_false_eq_true, ↓reduceIte,
    encodeSemiAddress_digits ds hds, Option.getD_some, (toa_bits ⟨a.ton, hton.1⟩ ⟨a.npi, hnpi⟩).2.2, semiOctets_length]

include hv

/-- **numeric TP-OA / TP-DA** of 1..254 digits (the octet count `(l + 1) / 2` is computed in a byte: 255 wraps) -/
theorem numAddr_codec (hlen : 1 ≤ ds.length ∧ ds.length ≤ 254) :
    Codec (readAddr rev escs) (writeAddr rev escs) (addressField a) ⟨UInt8.ofNat a.npi, UInt8.ofNat a.ton, ds.map (· + 48)⟩ := by
  obtain ⟨hb1, hb2, _⟩ := toa_bits ⟨a.ton, hton.1⟩ ⟨a.npi, hnpi⟩
  have hne : (ds.map (· + 48)).isEmpty = false := by cases ds <;> simp at hlen ⊢
  constructor
  · intro rest
    have hhalf : ((UInt8.ofNat ds.length + 1) / 2).toNat = (semiOctets ds).length := by
      simp [semiOctets_length]; omega
    simp only [addressField, hv]
    exact readAddr_cons (ofNat_ne (k := 0) (by omega) (show _ ≠ 0 by omega)) hhalf hb1 hb2
      (decodeNo_digits rev escs hton hds)
  · simp only [writeAddr, hne, Bool.false_eq_true, ↓reduceIte, addrBinary_digits rev escs hton hnpi hds,
      ofNat_ne (k := 5) (by omega) hton.2, ne_eq, not_false_eq_true, utf8Len_digits ds hds, addressField, hv]

/-- **numeric SC address** (RP layer) of 1..508 digits (the length octet is a byte): it counts the type octet and the digit octets, as `getType` needs -/
theorem scAddr_codec (hlen : 1 ≤ ds.length ∧ ds.length ≤ 508) :
    Codec (readSCAddr rev escs) (writeSCAddr rev escs) (scAddressField (some a))
      ⟨UInt8.ofNat a.npi, UInt8.ofNat a.ton, ds.map (· + 48)⟩ ∧ ScShape (scAddressField (some a)) := by
  obtain ⟨hb1, hb2, _⟩ := toa_bits ⟨a.ton, hton.1⟩ ⟨a.npi, hnpi⟩
  have hne : (ds.map (· + 48)).isEmpty = false := by cases ds <;> simp at hlen ⊢
  have hl : (UInt8.ofNat (1 + (ds.length + 1) / 2)).toNat = (semiOctets ds).length + 1 := by
    rw [semiOctets_length, Nat.add_comm]; exact u8_ofNat_toNat (by omega)
  simp only [scAddressField, hv]
  refine ⟨⟨fun rest => ?_, ?_⟩, _, _, rfl, hl, Nat.succ_pos _⟩
  · exact readSCAddr_cons (ofNat_ne (k := 0) (by omega) (show _ ≠ 0 by omega)) (by omega) hb1 hb2
      (decodeNo_digits rev escs hton hds)
  · simp only [writeSCAddr, hne, addrBinary_digits rev escs hton hnpi hds]
    rw [Nat.add_comm 1, UInt8.ofNat_add]
    rfl

end numeric

/-- **time stamp**: every valid civil date and time of 2000–2099 and every zone of 0..99 quarter hours, against the
seven octets of §9.2.3.11 -/
theorem timestamp_codec (t : TimeStamp) (hy : t.year < 100) (hz : 0 ≤ t.zone ∧ t.zone < 100)
    (hv : ValidCivil (2000 + t.year) t.month t.day t.hour t.minute t.second 0) :
    Codec readTime writeTime (timeStampField t)
      ⟨(2000 + t.year : Nat), t.month, t.day, t.hour, t.minute, t.second, 0, t.zone * 900⟩ := by
  obtain ⟨y, mo, d, h, mi, s, z⟩ := t
  dsimp only at hy hz hv ⊢
  obtain ⟨q, rfl⟩ := Int.eq_ofNat_of_zero_le hz.1
  obtain ⟨hmo, hd, hh, hmi, hs⟩ := hv.lt_100
  have hall : ∀ v ∈ [y, mo, d, h, mi, s, q], v < 100 := by
    simpa using ⟨hy, hmo, hd, hh, hmi, hs, by omega⟩
  have hfield : timeStampField ⟨y, mo, d, h, mi, s, (q : Int)⟩ = [y, mo, d, h, mi, s, q].map bcdSwapped := by
    have hz : ¬ ((q : Int) < 0) := by omega
    simp [timeStampField, hz]
  rw [hfield]
  constructor
  · intro rest
    rw [readTime_blocks rfl (decodeSemi_bcd _ hall), hv.norm 0 _ (by omega)]
  · have e1 : ((2000 + y : Nat) : Int) - 2000 = (y : Int) := by omega
    have e2 : Int.tdiv ((q : Int) * 900) 900 = (q : Int) := by
      rw [Int.tdiv_eq_ediv_of_nonneg (by omega)]; omega
    simp only [writeTime, e1, e2]
    exact encodeSemi_bcd _ hall

/-- in walk state `st` the loop of `unmarshal` reads the octets `b` as the value `v` of field `f`, whatever follows, and goes on
in state `st'`; `Marshal`, writing validity-period format `vpf`, writes `v` as `b` -/
structure FieldAgrees (e : Env) (vpf : Nat) (f : TField) (st st' : WalkState) (b : Bytes) (v : FVal) : Prop where
  read : ∀ rest, stepField e.rev e.escs e.flagLayouts f st (b ++ rest) = .ok (v, rest, st')
  write : marshalField e vpf f v = .ok b

/-- the same for a run of fields read up to the end of the input -/
def Agrees (e : Env) (vpf : Nat) (fs : List TField) (st : WalkState) (bs : Bytes) (vs : List FVal) : Prop :=
  unmarshalFields e.rev e.escs e.flagLayouts fs st bs = .ok vs ∧ marshalFields e vpf fs vs = .ok bs

theorem Agrees.nil {e vpf st} : Agrees e vpf [] st [] [] := ⟨rfl, rfl⟩

/-- while no parameter indicator has been seen (the walk states met here are built from `{}`, so `rfl` shows it) -/
theorem Agrees.cons {e vpf f fs st st' b v bs vs} (hf : FieldAgrees e vpf f st st' b v) (hr : Agrees e vpf fs st' bs vs)
    (hpi : st.pi = none := by rfl) : Agrees e vpf (f :: fs) st (b ++ bs) (v :: vs) := by
  constructor
  · simp only [unmarshalFields, hpi, Option.isSome_none, Bool.false_and, Bool.false_eq_true, ↓reduceIte, hf.read, hr.1]
  · simp only [marshalFields, hf.write, hr.2]

theorem unmarshal_marshal {e : Env} {n : String} {fs : List TField} {bs : Bytes} {vs : List FVal} {k : Nat} {fail : Bool}
    (hgt : getType bs = .ok (k, fail)) (hn : typeName k fail = some n)
    (hlay : e.layouts.find? (·.name == n) = some ⟨n, fs⟩) (h : Agrees e (vpfOf vs) fs {} bs vs) :
    unmarshal e bs = .ok ⟨n, vs⟩ ∧ marshal e ⟨n, vs⟩ = .ok bs := by
  simp only [unmarshal, marshal, hgt, hn, hlay, h.1, h.2, and_self]

/-- bytes.TrimRight(ud, "\x00") leaves user data alone unless it ends in 0x00 -/
theorem trim_id (ud : Bytes) (h : ud.getLast? ≠ some 0) : (ud.reverse.dropWhile (· == 0)).reverse = ud := by
  rw [List.getLast?_eq_head?_reverse] at h
  have hr : ud.reverse.dropWhile (· == 0) = ud.reverse := by
    generalize ud.reverse = r at h
    cases r with
    | nil => rfl
    | cons x xs => exact List.dropWhile_cons_of_neg (by simpa using h)
  rw [hr, List.reverse_reverse]

namespace FieldAgrees
variable {e : Env} {vpf : Nat} {n tp dir : String} {st : WalkState}

theorem byte (x : UInt8) : FieldAgrees e vpf ⟨n, tp, dir, .byte, .byte⟩ st st [x] (.byte x) :=
  ⟨fun _ => by simp [stepField, rdByte], rfl⟩

theorem scaddr {b : Bytes} {a : Addr} (h : Codec (readSCAddr e.rev e.escs) (writeSCAddr e.rev e.escs) b a) :
    FieldAgrees e vpf ⟨n, tp, dir, .scaddr, .scaddr⟩ st st b (.addr a) :=
  ⟨fun rest => by simp [stepField, h.read], congrArg Res.ok h.write⟩

theorem addr {b : Bytes} {a : Addr} (h : Codec (readAddr e.rev e.escs) (writeAddr e.rev e.escs) b a) :
    FieldAgrees e vpf ⟨n, tp, dir, .addr, .addr⟩ st st b (.addr a) :=
  ⟨fun rest => by simp [stepField, h.read], congrArg Res.ok h.write⟩

theorem time {b : Bytes} {t : GoDate} (h : Codec readTime writeTime b t) :
    FieldAgrees e vpf ⟨n, tp, dir, .time, .time⟩ st st b (.time t) :=
  ⟨fun rest => by simp [stepField, h.read], congrArg Res.ok h.write⟩

/-- (`unfold marshalField; simp`, here and below, where `simp [marshalField]` would do: with the overlapping
`match f.mkind, v` such a `simp` replays the equation lemmas of the whole match and is very slow to check) -/
theorem bytes (ud : Bytes) (hlen : ud.length ≤ 255) (hlast : ud.getLast? ≠ some 0) :
    FieldAgrees e vpf ⟨n, tp, dir, .bytes, .bytes⟩ st st (UInt8.ofNat ud.length :: ud) (.bytes ud) :=
  ⟨fun rest => by simp [stepField, rdByte, u8_ofNat_toNat hlen, rdN_append],
    by unfold marshalField; simp [trim_id ud hlast]⟩

theorem flagsMT {ty : String} {ks : List FlagKind} (hks : flagKinds e.flagLayouts ty = ks) (h1 : ty ≠ "SubmitFlags")
    (h2 : ty ≠ "ParameterIndicator") (k : Nat)
    (hrt : marshalFlags ks (setDirection 0 ks (unmarshalFlags (UInt8.ofNat k) ks 0)) 0 = k) :
    FieldAgrees e vpf ⟨n, tp, "MT", .flags ty, .flags ty⟩ st st [UInt8.ofNat k]
      (.flags (setDirection 0 ks (unmarshalFlags (UInt8.ofNat k) ks 0))) := by
  subst hks
  exact ⟨fun rest => by simp [stepField, rdByte, h1, h2], by unfold marshalField; simp [h1, hrt]⟩

/-- SubmitFlags in a mobile-originated structure: the walk keeps the validity-period format it read, and Marshal overwrites
that position with `vpf` -/
theorem flagsSubmit {ks : List FlagKind} (hks : flagKinds e.flagLayouts "SubmitFlags" = ks) (k : Nat) {v : List Nat}
    (hv : v = setDirection 1 ks (unmarshalFlags (UInt8.ofNat k) ks 0)) (hrt : marshalFlags ks (v.set 2 vpf) 0 = k) :
    FieldAgrees e vpf ⟨n, tp, "MO", .flags "SubmitFlags", .flags "SubmitFlags"⟩ st { st with vpf := v.getD 2 0 }
      [UInt8.ofNat k] (.flags v) := by
  subst hks hv
  exact ⟨fun rest => by simp [stepField, rdByte], by unfold marshalField; simp [hrt]⟩

theorem vpNone (hst : st.vpf = 0) : FieldAgrees e vpf ⟨n, tp, dir, .iface, .iface⟩ st st [] (.vp .none) :=
  ⟨fun rest => by simp [stepField, hst], rfl⟩

theorem vpRel (hst : st.vpf = 2) (k : Nat) (hk : k < 256) (hrt : secsToRel (relToSecs k) = UInt8.ofNat k) :
    FieldAgrees e vpf ⟨n, "VP", dir, .iface, .iface⟩ st st [UInt8.ofNat k] (.vp (.rel (relToSecs k))) :=
  ⟨fun rest => by simp [stepField, hst, readRel_cons, u8_ofNat_toNat (Nat.le_of_lt_succ hk)], by unfold marshalField; simp [hrt]⟩

theorem vpAbs (hst : st.vpf = 3) {b : Bytes} {t : GoDate} (h : Codec readTime writeTime b t) :
    FieldAgrees e vpf ⟨n, "VP", dir, .iface, .iface⟩ st st b (.vp (.abs t)) :=
  ⟨fun rest => by simp [stepField, hst, h.read], congrArg Res.ok h.write⟩

end FieldAgrees

end Smpp.Sms

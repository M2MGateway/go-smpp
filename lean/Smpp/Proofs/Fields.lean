/-
The reflection walk: decoding the octets Marshal's loop produced returns the
(Prepare-normalised) values — by induction over the field list, for any layout
that passes the decidable shape test `LayoutOK`.
-/
import Smpp.Proofs.Codec

namespace Smpp.Pdu

def tagsLast : List Field → Bool
  | [] => true
  | [_] => true
  | f :: g :: fs => f.kind != .tags && tagsLast (g :: fs)

def noHeader (fs : List Field) : Bool := fs.all (fun f => f.kind != .header)

def esmAhead (fs : List Field) : Bool := fs.any (fun f => f.name == "ESMClass")

/-- the field named ESMClass is an ESMClass field, there is only one, and no short message comes before it
(`unmarshal` learns the UDH indicator from it on the way to the short message) -/
def esmOK : List Field → Bool
  | [] => true
  | f :: fs =>
    (if f.name == "ESMClass" then f.kind == .esm && !esmAhead fs else true) &&
    (if f.kind == .sm then !esmAhead (f :: fs) else true) && esmOK fs

def LayoutOK (L : Layout) : Bool :=
  match L.fields with
  | f :: fs => f.kind == .header && f.name != "ESMClass" && noHeader fs && tagsLast fs && esmOK fs
      && decide (L.id < 4294967296)
  | [] => false

theorem tagsLast_cons {f : Field} {fs : List Field} (h : tagsLast (f :: fs) = true) :
    (f.kind = .tags → fs = []) ∧ tagsLast fs = true := by
  cases fs with
  | nil => exact ⟨fun _ => rfl, rfl⟩
  | cons g gs => simp only [tagsLast, Bool.and_eq_true, bne_iff_ne] at h; exact ⟨fun ht => absurd ht h.1, h.2⟩

theorem noHeader_cons {f : Field} {fs : List Field} :
    noHeader (f :: fs) = true ↔ f.kind ≠ .header ∧ noHeader fs = true := by
  simp [noHeader]

theorem esmOK_cons {f : Field} {fs : List Field} : esmOK (f :: fs) = true ↔
    (f.name = "ESMClass" → f.kind = .esm ∧ esmAhead fs = false) ∧
    (f.kind = .sm → esmAhead (f :: fs) = false) ∧ esmOK fs = true := by
  by_cases hn : f.name = "ESMClass" <;> by_cases hk : f.kind = .sm <;> simp [esmOK, hn, hk]

theorem LayoutOK_iff {L : Layout} : LayoutOK L = true ↔
    ∃ f fs, L.fields = f :: fs ∧ f.kind = .header ∧ f.name ≠ "ESMClass" ∧ noHeader fs = true ∧
      tagsLast fs = true ∧ esmOK fs = true ∧ L.id < 4294967296 := by
  unfold LayoutOK
  cases L.fields <;> simp [and_assoc]

/-- What the wire format can carry.  `rp`, `U` as for `SmWF`: replace_sm layout, UDH indicator of the finished struct
(only the short message reads them). -/
def FValWF (rp U : Bool) : FVal → Prop
  | .cstr s => NulFree s
  | .u8 _ => True
  | .bool _ => True
  | .header _ => True
  | .esm e => e.mode.toNat < 4 ∧ e.type.toNat < 16
  | .regdlv g => g.mc.toNat < 4 ∧ g.sme.toNat < 4 ∧ g.reserved.toNat < 8
  | .addr a => NulFree a.no
  | .dests d => DestsWF d
  | .unsucc l => ∀ u ∈ l, NulFree u.addr.no
  | .tags t => TagsWF t
  | .sm m => SmWF rp U (prepare rp U m)
  | .skipped n => n = 0

/-- what a value looks like after one encode/decode trip -/
def normVal : FVal → FVal
  | .tags t => .tags (dropEmpty t)
  | v => v

/-- The value Marshal leaves in the struct: unchanged, except that a short message is Prepared. -/
def afterEnc (rp U : Bool) : FVal → FVal
  | .sm m => .sm (prepare rp U m)
  | x => x

/-! ### the encoder as a function of the Prepared value alone

`encField` returns the octets paired with the value it leaves behind.  The octets depend on that
value only (`encVal`), and the field list succeeds exactly when each field does. -/

def encVal : FVal → Except Err Bytes
  | .cstr s => .ok (encCStr s)
  | .u8 b => .ok [b]
  | .bool b => .ok [b2u b]
  | .header _ => .ok []
  | .esm e => .ok [encEsm e]
  | .regdlv r => .ok [encRegDlv r]
  | .addr a => .ok (encAddr a)
  | .dests d => encDests d
  | .unsucc l => encUnsucc l
  | .tags t => encTagsSorted t
  | .sm m => encSm m
  | .skipped _ => .ok []

theorem encField_eq (rp U : Bool) (v : FVal) :
    encField rp U v = (encVal (afterEnc rp U v)).map (·, afterEnc rp U v) := by
  cases v <;> rfl

theorem encField_ok_iff {rp U : Bool} {v v' : FVal} {b : Bytes} :
    encField rp U v = .ok (b, v') ↔ encVal (afterEnc rp U v) = .ok b ∧ v' = afterEnc rp U v := by
  rw [encField_eq]
  cases encVal (afterEnc rp U v) <;> simp [Except.map, eq_comm]

theorem encFields_nil_ok {rp U : Bool} {bs : Bytes} {vs' : List FVal} :
    encFields rp U [] = .ok (bs, vs') ↔ bs = [] ∧ vs' = [] := by
  simp [encFields]

theorem encFields_cons_ok {rp U : Bool} {v : FVal} {vs : List FVal} {bs : Bytes} {vs' : List FVal} :
    encFields rp U (v :: vs) = .ok (bs, vs') ↔
      ∃ b bs₂ vs₂, encVal (afterEnc rp U v) = .ok b ∧ encFields rp U vs = .ok (bs₂, vs₂) ∧
        bs = b ++ bs₂ ∧ vs' = afterEnc rp U v :: vs₂ := by
  simp only [encFields, encField_eq]
  cases encVal (afterEnc rp U v) with
  | error e => simp [Except.map]
  | ok b =>
    rcases encFields rp U vs with _ | ⟨bs₂, vs₂⟩
    · simp [Except.map]
    · simp [Except.map, and_assoc, eq_comm (a := bs), eq_comm (a := vs')]

theorem encFields_snd {rp U : Bool} : ∀ {vs : List FVal} {bs : Bytes} {vs' : List FVal},
    encFields rp U vs = .ok (bs, vs') → vs' = vs.map (afterEnc rp U)
  | [], _, _, h => (encFields_nil_ok.mp h).2
  | _ :: _, _, _, h => by
    obtain ⟨_, _, _, _, h2, _, rfl⟩ := encFields_cons_ok.mp h
    rw [encFields_snd h2, List.map_cons]

/-- The TLV map reads to the end of the frame (hence `hr`) and loses its empty values (hence `normVal`). -/
theorem decField_enc (rp U : Bool) (k : Kind) (v : FVal) (b r : Bytes)
    (hk : v.hasKind k = true) (hne : k ≠ .header) (hr : k = .tags → r = []) (hwf : FValWF rp U v)
    (he : encVal (afterEnc rp U v) = .ok b) :
    decField rp U k (b ++ r) = some (normVal (afterEnc rp U v), r) := by
  revert hk
  -- the twelve (value, kind) pairs `hasKind` admits, in the order of `FVal`'s constructors
  fun_cases FVal.hasKind v k <;> intro hk
  case case1 s => cases he; rw [decField, readCStr_enc s r hwf]; rfl
  case case2 x => cases he; rfl
  case case3 x => cases he; exact congrArg (fun x => some (FVal.bool x, r)) (b2u_eq_one x)
  case case4 h => exact absurd rfl hne
  case case5 e => cases he; exact congrArg (fun e => some (FVal.esm e, r)) (esm_roundtrip e hwf.1 hwf.2)
  case case6 g => cases he; exact congrArg (fun g => some (FVal.regdlv g, r)) (regdlv_roundtrip g hwf.1 hwf.2.1 hwf.2.2)
  case case7 a => cases he; rw [decField, decAddr_enc a r hwf]; rfl
  case case8 d => rw [decField, decDests_enc d b r hwf he]; rfl
  case case9 l => rw [decField, decUnsucc_enc l b r hwf he]; rfl
  case case10 t => rw [hr rfl, List.append_nil, decField, decTags_enc t b hwf he]; rfl
  case case11 m => rw [decField, decSm_enc rp U (prepare rp U m) b r hwf he]; rfl
  case case12 n g => cases he; cases hwf; rfl
  case case13 => cases hk

theorem decField_indep (rp : Bool) {u u' : Bool} {k : Kind} (bs : Bytes) (h : k = .sm → u = u') :
    decField rp u k bs = decField rp u' k bs := by
  cases k with
  | sm => rw [h rfl]
  | _ => rfl

/-! ### the UDH indicator

`decFields` threads the indicator through the loop (`udhiNext`), the encoder looks the finished
value up (`udhiOf`).  `esmOK` makes the two agree wherever the indicator is consulted, i.e. at a
short message: the field named ESMClass is unique and comes before it. -/

theorem udhiOf_cons (f : Field) (fs : List Field) (v : FVal) (vs : List FVal) :
    udhiOf (f :: fs) (v :: vs) =
      if f.name = "ESMClass" then (match v with | .esm e => e.udhi | _ => false) else udhiOf fs vs := rfl

theorem udhiOf_cons_ne (f : Field) (fs : List Field) (v : FVal) (vs : List FVal)
    (h : f.name ≠ "ESMClass") : udhiOf (f :: fs) (v :: vs) = udhiOf fs vs := by
  rw [udhiOf_cons, if_neg h]

theorem udhiOf_not_ahead : ∀ (fs : List Field) (vs : List FVal), esmAhead fs = false → udhiOf fs vs = false
  | [], _, _ | _ :: _, [], _ => rfl
  | f :: fs, v :: vs, h => by
    obtain ⟨hn, hfs⟩ := Bool.or_eq_false_iff.mp h
    rw [udhiOf_cons_ne f fs v vs (by simpa using hn)]
    exact udhiOf_not_ahead fs vs hfs

/-- The indicator the finished struct holds, `u` being what it held before the fields `fs`. -/
def udhiFinal (u : Bool) (fs : List Field) (vs : List FVal) : Bool :=
  if esmAhead fs then udhiOf fs vs else u

theorem udhiFinal_false (fs : List Field) (vs : List FVal) : udhiFinal false fs vs = udhiOf fs vs := by
  unfold udhiFinal
  split
  · rfl
  · next h => rw [udhiOf_not_ahead fs vs (by simpa using h)]

theorem udhiFinal_cons {u : Bool} {f : Field} {fs : List Field} {v : FVal} {vs : List FVal}
    (hesm : esmOK (f :: fs) = true) (hk : v.hasKind f.kind = true) :
    udhiFinal u (f :: fs) (v :: vs) = udhiFinal (udhiNext u f v) fs vs := by
  obtain ⟨hE, _, _⟩ := esmOK_cons.mp hesm
  unfold udhiFinal udhiNext
  rw [udhiOf_cons, show esmAhead (f :: fs) = (f.name == "ESMClass" || esmAhead fs) from rfl]
  by_cases hn : f.name = "ESMClass"
  · obtain ⟨hke, hna⟩ := hE hn
    rw [hke] at hk
    rw [if_pos hn, if_pos hn, hna, beq_iff_eq.mpr hn]
    cases v with
    | esm e => rfl
    | _ => cases hk
  · rw [if_neg hn, if_neg hn, beq_false_of_ne hn, Bool.false_or]

theorem udhiFinal_sm {u : Bool} {f : Field} {fs : List Field} {vs : List FVal}
    (hesm : esmOK (f :: fs) = true) (hk : f.kind = .sm) : udhiFinal u (f :: fs) vs = u := by
  simp [udhiFinal, (esmOK_cons.mp hesm).2.1 hk]

theorem udhiNext_norm_afterEnc (rp U u : Bool) (f : Field) (v : FVal) :
    udhiNext u f (normVal (afterEnc rp U v)) = udhiNext u f v := by
  cases v <;> rfl

theorem decFields_enc (rp U : Bool) (fs : List Field) (vs : List FVal) (u : Bool) (bs : Bytes) (vs' : List FVal)
    (hty : Typed fs vs = true) (hwf : ∀ v ∈ vs, FValWF rp U v) (htl : tagsLast fs = true)
    (hnh : noHeader fs = true) (hesm : esmOK fs = true) (hU : udhiFinal u fs vs = U)
    (he : encFields rp U vs = .ok (bs, vs')) : decFields rp u fs bs = some (vs'.map normVal) := by
  fun_induction Typed fs vs generalizing u bs vs' with
  | case1 =>
    obtain ⟨rfl, rfl⟩ := encFields_nil_ok.mp he
    rfl
  | case2 f fs v vs ih =>
    rw [Bool.and_eq_true] at hty
    obtain ⟨hfk, hnh'⟩ := noHeader_cons.mp hnh
    obtain ⟨hlast, htl'⟩ := tagsLast_cons htl
    obtain ⟨b, bs₂, vs₂, h1, h2, rfl, rfl⟩ := encFields_cons_ok.mp he
    obtain ⟨hwfv, hwf'⟩ := List.forall_mem_cons.mp hwf
    -- the TLV map is the last field, so nothing follows its octets
    have hr : f.kind = .tags → bs₂ = [] := fun ht => by
      obtain rfl := hlast ht
      cases vs with
      | nil => exact (encFields_nil_ok.mp h2).1
      | cons _ _ => simp [Typed] at hty
    -- the indicator matters only at a short message, and there it is final
    have hu : decField rp u f.kind (b ++ bs₂) = decField rp U f.kind (b ++ bs₂) :=
      decField_indep rp _ fun hsm => by rw [← hU, udhiFinal_sm hesm hsm]
    rw [udhiFinal_cons hesm hty.1, ← udhiNext_norm_afterEnc rp U] at hU
    rw [decFields, if_neg hfk, hu, decField_enc rp U f.kind v b bs₂ hty.1 hfk hr hwfv h1]
    simp only
    rw [ih _ bs₂ vs₂ hty.2 hwf' htl' hnh' (esmOK_cons.mp hesm).2.2 hU h2]
    rfl
  | case3 => cases hty

end Smpp.Pdu

/-
Per field kind: what the encoder's success means (size bounds and the octets written), and the
decoder on those octets followed by any rest `r`, which returns the value and `r`.
-/
import Smpp.Proofs.Bytes
import Smpp.Proofs.KMap

namespace Smpp.Pdu

/-! ### what the wire can carry, kind by kind: the domain of the round trip (`FValWF` puts them together)

The bounds are the encoders' own guards (`*_ok_iff` below): 255 is a one-octet count or length, 140 is
MaxShortMessageLength, 65534 is Tags.WriteTo's `length < 0xFFFF` (one below what sixteen bits carry). -/

def NulFree (s : Bytes) : Prop := ∀ b ∈ s, b ≠ 0

instance (s : Bytes) : Decidable (NulFree s) := by unfold NulFree; infer_instance

def DestsWF (d : Dests) : Prop := (∀ a ∈ d.addrs, NulFree a.no) ∧ (∀ s ∈ d.dls, NulFree s)

def TagsWF (t : KMap) : Prop := KSorted t ∧ ∀ kv ∈ t, kv.1 < 65536 ∧ kv.2.length < 65535

/-- A prepared short message as the wire can carry it.  `rp`: the layout is replace_sm, whose short message has no
data_coding octet (`Layout.isReplace`); `udhi`: the UDH indicator of the enclosing struct's ESMClass. -/
def SmWF (rp udhi : Bool) (m : ShortMsg) : Prop :=
  (if rp then m.dc = noCoding ∧ m.udh = none else m.dc ≠ noCoding ∧ m.udh.isSome = udhi) ∧
  (∀ els, m.udh = some els → KSorted els ∧ ∀ kv ∈ els, kv.1 < 256)

/-! ### esm_class / registered_delivery: finite facts, by kernel evaluation

For each of the two bit fields, one sweep over the in-range values (decoding what was encoded) and
one over the 256 octets (re-encoding what was decoded, which is in range). -/

theorem esm_roundtrip (e : Esm) (hm : e.mode.toNat < 4) (ht : e.type.toNat < 16) :
    decEsm (encEsm e) = e := by
  have sweep : ∀ (m : Fin 4) (t : Fin 16) (u r : Bool),
      decEsm (encEsm ⟨.ofNat m, .ofNat t, u, r⟩) = ⟨.ofNat m, .ofNat t, u, r⟩ := by decide +kernel
  simpa using sweep ⟨_, hm⟩ ⟨_, ht⟩ e.udhi e.reply

theorem esm_octets : ∀ c : UInt8,
    encEsm (decEsm c) = c ∧ (decEsm c).mode.toNat < 4 ∧ (decEsm c).type.toNat < 16 :=
  forall_u8 (by decide +kernel)

theorem regdlv_roundtrip (g : RegDlv) (h1 : g.mc.toNat < 4) (h2 : g.sme.toNat < 4) (h3 : g.reserved.toNat < 8) :
    decRegDlv (encRegDlv g) = g := by
  have sweep : ∀ (a b : Fin 4) (i : Bool) (r : Fin 8),
      decRegDlv (encRegDlv ⟨.ofNat a, .ofNat b, i, .ofNat r⟩) = ⟨.ofNat a, .ofNat b, i, .ofNat r⟩ := by
    decide +kernel
  simpa using sweep ⟨_, h1⟩ ⟨_, h2⟩ g.inter ⟨_, h3⟩

theorem regdlv_octets : ∀ c : UInt8, encRegDlv (decRegDlv c) = c ∧
    (decRegDlv c).mc.toNat < 4 ∧ (decRegDlv c).sme.toNat < 4 ∧ (decRegDlv c).reserved.toNat < 8 :=
  forall_u8 (by decide +kernel)

theorem b2u_eq_one (b : Bool) : (b2u b == 1) = b := by cases b <;> rfl

theorem readCStr_enc (s r : Bytes) (h : NulFree s) : readCStr (encCStr s ++ r) = some (s, r) := by
  simp [encCStr, readCStr_append s r h]

theorem decAddr_enc (a : Addr) (r : Bytes) (h : NulFree a.no) :
    decAddr (encAddr a ++ r) = some (a, r) := by
  simp [encAddr, encCStr, decAddr, readCStr_append a.no r h]

theorem decDestsLoop_dls (D : List Bytes) (d0 : Dests) (r : Bytes) (h : ∀ s ∈ D, NulFree s) :
    decDestsLoop D.length d0 (D.flatMap (fun s => 2 :: encCStr s) ++ r)
      = some ({ d0 with dls := d0.dls ++ D }, r) := by
  induction D generalizing d0 with
  | nil => simp [decDestsLoop]
  | cons s D ih =>
    obtain ⟨hs, hD⟩ := List.forall_mem_cons.mp h
    simp [decDestsLoop, readCStr_enc s _ hs, ih _ hD]

theorem decDestsLoop_addrs (A : List Addr) (n : Nat) (d0 : Dests) (r : Bytes)
    (h : ∀ a ∈ A, NulFree a.no) :
    decDestsLoop (A.length + n) d0 (A.flatMap (fun a => 1 :: encAddr a) ++ r)
      = decDestsLoop n { d0 with addrs := d0.addrs ++ A } r := by
  induction A generalizing d0 with
  | nil => simp
  | cons a A ih =>
    obtain ⟨ha, hA⟩ := List.forall_mem_cons.mp h
    simp [Nat.add_right_comm, decDestsLoop, decAddr_enc a _ ha, ih _ hA]

theorem guard_ok_iff {α : Type} {c : Prop} [Decidable c] {e : Err} {x : Except Err α} {b : α} :
    (if c then .error e else x) = .ok b ↔ ¬ c ∧ x = .ok b := by
  split <;> simp [*]

theorem encDests_ok_iff {d : Dests} {b : Bytes} : encDests d = .ok b ↔
    d.addrs.length + d.dls.length ≤ 255 ∧
    b = UInt8.ofNat (d.addrs.length + d.dls.length) ::
      (d.addrs.flatMap (fun a => 1 :: encAddr a) ++ d.dls.flatMap (fun s => 2 :: encCStr s)) := by
  simp only [encDests, guard_ok_iff, Nat.not_lt, Except.ok.injEq, eq_comm (a := b)]

theorem decDests_enc (d : Dests) (b r : Bytes) (hwf : DestsWF d) (he : encDests d = .ok b) :
    decDests (b ++ r) = some (d, r) := by
  obtain ⟨hle, rfl⟩ := encDests_ok_iff.mp he
  simp only [List.cons_append, List.append_assoc, decDests, u8_ofNat_toNat hle]
  rw [decDestsLoop_addrs d.addrs d.dls.length ⟨[], []⟩ _ hwf.1, decDestsLoop_dls d.dls _ r hwf.2]
  simp

theorem readU32_be32 (n : UInt32) (r : Bytes) : readU32 (be32 n ++ r) = some (n, r) := by
  simp only [be32, readU32, List.cons_append, List.nil_append]
  rw [rd32_be32]

theorem decUnsuccLoop_enc (l acc : List Unsucc) (r : Bytes) (h : ∀ u ∈ l, NulFree u.addr.no) :
    decUnsuccLoop l.length acc (l.flatMap (fun u => encAddr u.addr ++ be32 u.status) ++ r)
      = some (acc ++ l, r) := by
  induction l generalizing acc with
  | nil => simp [decUnsuccLoop]
  | cons u l ih =>
    obtain ⟨hu, hl⟩ := List.forall_mem_cons.mp h
    simp [decUnsuccLoop, decAddr_enc u.addr _ hu, readU32_be32, ih _ hl]

theorem encUnsucc_ok_iff {l : List Unsucc} {b : Bytes} : encUnsucc l = .ok b ↔
    l.length ≤ 255 ∧ b = UInt8.ofNat l.length :: l.flatMap (fun u => encAddr u.addr ++ be32 u.status) := by
  simp only [encUnsucc, guard_ok_iff, Nat.not_lt, Except.ok.injEq, eq_comm (a := b)]

theorem decUnsucc_enc (l : List Unsucc) (b r : Bytes) (hwf : ∀ u ∈ l, NulFree u.addr.no)
    (he : encUnsucc l = .ok b) : decUnsucc (b ++ r) = some (l, r) := by
  obtain ⟨hle, rfl⟩ := encUnsucc_ok_iff.mp he
  simp only [List.cons_append, decUnsucc, u8_ofNat_toNat hle]
  rw [decUnsuccLoop_enc l [] r hwf]
  simp

/-- Tags.WriteTo skips empty values, so they do not survive a round trip (C13: "counting as absent"). -/
def dropEmpty (t : KMap) : KMap := t.filter (fun kv => kv.2.length != 0)

theorem dropEmpty_cons (k : Nat) (v : Bytes) (t : KMap) :
    dropEmpty ((k, v) :: t) = if v.length = 0 then dropEmpty t else (k, v) :: dropEmpty t := by
  by_cases h : v.length = 0 <;> simp [dropEmpty, h]

theorem encTagsSorted_eq (t : KMap) : encTagsSorted t =
    if t.all (fun kv => kv.2.length < 65535) then .ok ((dropEmpty t).flatMap encTlv)
    else .error (.status 0xC2) := by
  induction t with
  | nil => rfl
  | cons a t ih =>
    obtain ⟨k, v⟩ := a
    rw [encTagsSorted, ih, dropEmpty_cons, List.all_cons]
    by_cases h0 : v.length = 0
    · obtain rfl := List.length_eq_zero_iff.mp h0
      simp only [List.length_nil, ↓reduceIte, Nat.reduceLT, decide_true, Bool.true_and]
    · by_cases hlt : v.length < 0xFFFF
      · cases t.all (fun kv => decide (kv.2.length < 65535)) <;> simp [h0, hlt]
      · simp [h0, hlt]

theorem encTagsSorted_ok_iff {t : KMap} {b : Bytes} : encTagsSorted t = .ok b ↔
    (∀ kv ∈ t, kv.2.length < 65535) ∧ b = (dropEmpty t).flatMap encTlv := by
  have hall : t.all (fun kv => decide (kv.2.length < 65535)) = true ↔ ∀ kv ∈ t, kv.2.length < 65535 := by simp
  rw [encTagsSorted_eq, ← hall]
  split <;> simp [*, eq_comm]

theorem decTags_tlv (acc : KMap) (k : Nat) (v rest : Bytes) (hk : k < 65536) (hv0 : v.length ≠ 0)
    (hv : v.length < 65536) : decTags acc (encTlv (k, v) ++ rest) = decTags (acc.insert k v) rest := by
  simp only [encTlv, be16, List.cons_append, List.nil_append]
  rw [decTags]
  simp only [UInt16.toNat_ofNat_of_lt' hk, UInt16.toNat_ofNat_of_lt' hv, rd16_nat hk, rd16_nat hv, List.length_append,
    hv0, show ¬ v.length + rest.length = 0 by omega, show ¬ v.length + rest.length < v.length by omega, ↓reduceIte,
    List.take_left', List.drop_left']

theorem decTags_flatMap (s acc : KMap) (hb : ∀ kv ∈ s, kv.1 < 65536 ∧ kv.2.length ≠ 0 ∧ kv.2.length < 65535) :
    decTags acc (s.flatMap encTlv) = some (s.foldl (fun m kv => m.insert kv.1 kv.2) acc) := by
  induction s generalizing acc with
  | nil => simp [decTags]
  | cons a s ih =>
    obtain ⟨⟨hk, hv0, hv⟩, hb'⟩ := List.forall_mem_cons.mp hb
    rw [List.flatMap_cons, decTags_tlv acc a.1 a.2 _ hk hv0 (by omega), ih _ hb', List.foldl_cons]

/-- The decoder rebuilds the map entry by entry (`KMap.ofList`), which for a canonical map is the identity. -/
theorem decTags_enc (t : KMap) (b : Bytes) (hwf : TagsWF t) (he : encTagsSorted t = .ok b) :
    decTags [] b = some (dropEmpty t) := by
  obtain ⟨_, rfl⟩ := encTagsSorted_ok_iff.mp he
  have hb : ∀ kv ∈ dropEmpty t, kv.1 < 65536 ∧ kv.2.length ≠ 0 ∧ kv.2.length < 65535 := fun kv h => by
    obtain ⟨hm, h0⟩ := List.mem_filter.mp h
    exact ⟨(hwf.2 kv hm).1, by simpa using h0, (hwf.2 kv hm).2⟩
  rw [decTags_flatMap _ [] hb]
  exact congrArg some (KMap.ofList_sorted _ (hwf.1.sublist List.filter_sublist))

theorem decUdhLoop_el (total i : Nat) (acc : KMap) (k : Nat) (v rest : Bytes) (hi : i < total) (hk : k < 256)
    (hv : v.length ≤ 255) :
    decUdhLoop total i acc (encUdhEl (k, v) ++ rest) = decUdhLoop total (i + 2 + v.length) (acc.insert k v) rest := by
  simp only [encUdhEl, List.cons_append]
  rw [decUdhLoop]
  simp [hi, u8_ofNat_toNat hv, u8_ofNat_toNat (show k ≤ 255 by omega), takeN_append]

theorem decUdhLoop_enc (els acc : KMap) (total i : Nat) (r : Bytes)
    (hb : ∀ kv ∈ els, kv.1 < 256 ∧ kv.2.length ≤ 255) (htot : i + (els.flatMap encUdhEl).length = total) :
    decUdhLoop total i acc (els.flatMap encUdhEl ++ r) = some (els.foldl (fun m kv => m.insert kv.1 kv.2) acc, r) := by
  induction els generalizing acc i with
  | nil =>
    rw [decUdhLoop.eq_def, if_neg (by simp at htot; omega)]
    rfl
  | cons a els ih =>
    obtain ⟨⟨hk, hv⟩, hb'⟩ := List.forall_mem_cons.mp hb
    simp only [List.flatMap_cons, List.length_append, encUdhEl, List.length_cons] at htot
    rw [List.flatMap_cons, List.append_assoc, decUdhLoop_el total i acc a.1 a.2 _ (by omega) hk hv,
      ih _ _ hb' (by omega), List.foldl_cons]

theorem udhBody_length (els : KMap) : (els.flatMap encUdhEl).length = (els.map fun kv => 2 + kv.2.length).sum := by
  induction els with
  | nil => rfl
  | cons a els ih => simp [encUdhEl, ih]; omega

theorem SmWF_iff {rp u : Bool} {m : ShortMsg} : SmWF rp u m ↔
    (rp = true ∧ m.dc = noCoding ∧ m.udh = none) ∨
    (rp = false ∧ m.dc ≠ noCoding ∧
      ((u = false ∧ m.udh = none) ∨ (u = true ∧ ∃ els, m.udh = some els ∧ KSorted els ∧ ∀ kv ∈ els, kv.1 < 256))) := by
  unfold SmWF
  cases rp <;> cases h : m.udh <;> simp [and_assoc]

/-- Prepare leaves alone a message that already has the form it establishes. -/
theorem prepare_of_wf {rp u : Bool} {m : ShortMsg} (h : SmWF rp u m) : prepare rp u m = m := by
  obtain ⟨defId, dc, udh, msg⟩ := m
  rcases SmWF_iff.mp h with ⟨rfl, rfl, rfl⟩ | ⟨rfl, _, ⟨rfl, rfl⟩ | ⟨rfl, els, rfl, _⟩⟩ <;> rfl

theorem encUdh_some_ok_iff {els : KMap} {b : Bytes} : encUdh (some els) = .ok b ↔
    (∀ kv ∈ els, kv.2.length ≤ 255) ∧ (els.flatMap encUdhEl).length ≤ 255 ∧
      b = UInt8.ofNat (els.flatMap encUdhEl).length :: els.flatMap encUdhEl := by
  simp only [encUdh, guard_ok_iff, List.any_eq_true, decide_eq_true_eq, not_exists, not_and, Nat.not_lt,
    Except.ok.injEq, eq_comm (a := b)]

theorem encSm_ok_iff {m : ShortMsg} {b : Bytes} : encSm m = .ok b ↔
    m.msg.length ≤ 140 ∧ ∃ u, encUdh m.udh = .ok u ∧ u.length + m.msg.length ≤ 255 ∧
      b = (if m.dc != noCoding then [m.dc] else []) ++ [m.defId, UInt8.ofNat (u.length + m.msg.length)] ++
        (u ++ m.msg) := by
  simp only [encSm, guard_ok_iff]
  rcases encUdh m.udh with e | u <;>
    simp only [guard_ok_iff, Nat.not_lt, List.length_append, Except.ok.injEq, exists_eq_left', reduceCtorEq,
      false_and, exists_false, eq_comm (a := b)]

/-! ShortMessage.ReadFrom in its three modes: replace_sm (no data_coding, no header), no UDH
indicator, UDH indicator. -/

theorem decSm_replace (u : Bool) (bs : Bytes) :
    decSm true u bs = match bs with
      | defId :: len :: r => (takeN len.toNat r).map fun (msg, r') => (⟨defId, noCoding, none, msg⟩, r')
      | _ => none := by
  unfold decSm
  simp only [↓reduceIte, Bool.not_true, Bool.false_and, Bool.false_eq_true, udhLen, Nat.zero_mod, Nat.sub_zero,
    Nat.add_mod_right, Nat.mod_eq_of_lt (UInt8.toNat_lt _)]
  rcases bs with _ | ⟨defId, _ | ⟨len, r⟩⟩ <;> simp only
  cases takeN len.toNat r <;> rfl

theorem decSm_plain (bs : Bytes) :
    decSm false false bs = match bs with
      | dc :: defId :: len :: r => (takeN len.toNat r).map fun (msg, r') => (⟨defId, dc, none, msg⟩, r')
      | _ => none := by
  unfold decSm
  simp only [Bool.false_eq_true, ↓reduceIte, Bool.and_false, udhLen, Nat.zero_mod, Nat.sub_zero,
    Nat.add_mod_right, Nat.mod_eq_of_lt (UInt8.toNat_lt _)]
  rcases bs with _ | ⟨dc, _ | ⟨defId, _ | ⟨len, r⟩⟩⟩ <;> simp only [readByte]
  cases takeN len.toNat r <;> rfl

theorem decSm_udh (bs : Bytes) :
    decSm false true bs = match bs with
      | dc :: defId :: len :: total :: r =>
        match decUdhLoop total.toNat 0 [] r with
        | some (els, r3) =>
          (takeN ((len.toNat + 256 - udhLen (some els) % 256) % 256) r3).map
            fun (msg, r') => (⟨defId, dc, some els, msg⟩, r')
        | none => none
      | _ => none := by
  unfold decSm
  simp only [Bool.false_eq_true, ↓reduceIte, Bool.not_false, Bool.and_self]
  rcases bs with _ | ⟨dc, _ | ⟨defId, _ | ⟨len, _ | ⟨total, r⟩⟩⟩⟩ <;> simp only [readByte]
  rcases decUdhLoop total.toNat 0 [] r with _ | ⟨els, r3⟩
  · rfl
  · simp only
    cases takeN ((len.toNat + 256 - udhLen (some els) % 256) % 256) r3 <;> rfl

theorem decSm_enc (rp udhi : Bool) (m : ShortMsg) (b r : Bytes) (hwf : SmWF rp udhi m)
    (he : encSm m = .ok b) : decSm rp udhi (b ++ r) = some (m, r) := by
  obtain ⟨defId, dc, udh, msg⟩ := m
  obtain ⟨hmsg, u, hu, _, rfl⟩ := encSm_ok_iff.mp he
  simp only at hmsg hu ⊢
  rcases SmWF_iff.mp hwf with ⟨rfl, rfl, rfl⟩ | ⟨rfl, hdc, ⟨rfl, rfl⟩ | ⟨rfl, els, rfl, hsorted, hkeys⟩⟩
  · cases hu
    simp [decSm_replace, u8_ofNat_toNat (show msg.length ≤ 255 by omega), takeN_append]
  · cases hu
    simp [decSm_plain, hdc, u8_ofNat_toNat (show msg.length ≤ 255 by omega), takeN_append]
  · obtain ⟨hel, hbody, rfl⟩ := encUdh_some_ok_iff.mp hu
    have hloop := decUdhLoop_enc els [] (els.flatMap encUdhEl).length 0 (msg ++ r)
      (fun kv h => ⟨hkeys kv h, hel kv h⟩) (by simp)
    rw [← KMap.ofList, KMap.ofList_sorted els hsorted] at hloop
    have hulen : udhLen (some els) = 1 + (els.flatMap encUdhEl).length := by rw [udhBody_length]; rfl
    generalize els.flatMap encUdhEl = body at *
    have hn : ((body.length + 1 + msg.length) % 256 + 256 - (1 + body.length) % 256) % 256 = msg.length := by
      omega
    simp [decSm_udh, hdc, u8_ofNat_toNat hbody, hloop, hulen, hn, takeN_append]

end Smpp.Pdu

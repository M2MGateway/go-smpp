/-
Panic-freedom of the sms model (C18), as one postcondition notion: `r.Safe P` says that `r` is not a panic and
that a returned value satisfies `P`.  Every reader is `Safe`; what Unmarshal returns is `Safe` with the
postcondition Marshal needs (`FValOK`), so the statements of C18 are read off `unmarshal_safe` and `marshal_safe`.
-/
import Smpp.Model.Sms

namespace Smpp.Res
variable {ε α : Type}

def Safe (r : Res ε α) (P : α → Prop) : Prop :=
  match r with
  | .ok a => P a
  | .err _ => True
  | .panic _ => False

/-- sequencing: to show something of a term built on a safe `x` (a `match x with …` of the model), look at values and errors
only.  The goal still shows `match .ok a with …` afterwards; `dsimp only` reduces it. -/
@[elab_as_elim] theorem Safe.elim {Q : α → Prop} {motive : Res ε α → Prop} {x : Res ε α} (hx : x.Safe Q)
    (ok : ∀ a, Q a → motive (.ok a)) (err : ∀ e, motive (.err e)) : motive x := by
  cases x with
  | ok a => exact ok a hx
  | err e => exact err e
  | panic s => exact False.elim hx

theorem Safe.isPanic_eq_false {r : Res ε α} {P : α → Prop} (h : r.Safe P) : r.isPanic = false :=
  h.elim (fun _ _ => rfl) fun _ => rfl

theorem Safe.of_ok {r : Res ε α} {P : α → Prop} (h : r.Safe P) {a : α} (e : r = .ok a) : P a := by
  subst e; exact h

end Smpp.Res

namespace Smpp.Sms

theorem decodeSemi_length_le (bs : Bytes) : (decodeSemi bs).length ≤ bs.length := by
  fun_induction decodeSemi bs with
  | case1 | case2 b r half lo h => simp
  | case3 b r half lo h ih => simp; omega

/-- a decoded pair is at most 15·10 + 14 -/
theorem decodeSemi_bound (bs : Bytes) : ∀ x ∈ decodeSemi bs, x ≤ 164 := by
  fun_induction decodeSemi bs with
  | case1 => simp
  | case2 b r half lo h => simp only [List.mem_singleton]; omega
  | case3 b r half lo h ih =>
    have := b.toNat_lt
    exact List.forall_mem_cons.mpr ⟨by omega, ih⟩

theorem rdByte_safe (bs : Bytes) : (rdByte bs).Safe fun _ => True := by
  cases bs <;> trivial

theorem rdN_safe (n : Nat) (bs : Bytes) : (rdN n bs).Safe fun p => p.1.length = n := by
  unfold rdN
  split
  · simp [Res.Safe, *]
  · split
    · trivial
    · simp [Res.Safe]; omega

theorem discard_safe (n : Nat) (bs : Bytes) : (discard n bs).Safe fun _ => True := by
  unfold discard; split <;> trivial

theorem decodeNo_safe (rev escs ton data) : (decodeNo rev escs ton data).Safe fun _ => True := by
  unfold decodeNo; split
  · trivial
  · split <;> trivial

theorem idx_lt {α} (site : String) (l : List α) (i : Nat) (h : i < l.length) : idx site l i = .ok l[i] := by
  rw [idx, List.getElem?_eq_getElem h]

theorem readAddr_safe (rev escs bs) : (readAddr rev escs bs).Safe fun _ => True := by
  unfold readAddr
  refine (rdByte_safe bs).elim (fun (len, bs) _ => ?_) fun _ => trivial
  dsimp only
  split
  · trivial
  · refine (rdByte_safe bs).elim (fun (kind, bs) _ => ?_) fun _ => trivial
    dsimp only
    refine (rdN_safe _ bs).elim (fun (data, bs) _ => ?_) fun _ => trivial
    dsimp only
    exact (decodeNo_safe rev escs _ data).elim (fun _ _ => trivial) fun _ => trivial

theorem readSCAddr_safe (rev escs bs) : (readSCAddr rev escs bs).Safe fun _ => True := by
  unfold readSCAddr
  refine (rdByte_safe bs).elim (fun (len, bs) _ => ?_) fun _ => trivial
  dsimp only
  split
  · trivial
  · refine (rdByte_safe bs).elim (fun (kind, bs) _ => ?_) fun _ => trivial
    dsimp only
    refine (rdN_safe _ bs).elim (fun (data, bs) _ => ?_) fun _ => trivial
    dsimp only
    exact (decodeNo_safe rev escs _ data).elim (fun _ _ => trivial) fun _ => trivial

/-- Time.ReadFrom: the seven indexings are guarded by the length test on the decoded pairs -/
theorem readTime_safe (bs : Bytes) : (readTime bs).Safe fun _ => True := by
  unfold readTime
  refine (rdN_safe 7 bs).elim (fun (data, bs) hl => ?_) fun _ => trivial
  dsimp only at hl ⊢
  split
  · trivial
  · next hne =>
    have hlen : (decodeSemi data).length = 7 := by omega
    simp only [idx_lt, hlen, Nat.reduceLT]
    trivial

theorem readRel_safe (bs : Bytes) : (readRel bs).Safe fun _ => True := by
  unfold readRel
  exact (rdN_safe 1 bs).elim (fun _ _ => trivial) fun _ => trivial

/-- what the writer needs of an enhanced validity period: the hh:mm:ss form stays below 1000 hours -/
def EnhOK (secs : Nat) (ind : UInt8) : Prop := ind.toNat % 8 = 3 → secs < 3600000

/-- EnhancedDuration.ReadFrom: the three indexings follow the length test, and three decoded pairs stay below 1000 hours -/
theorem readEnh_safe (bs : Bytes) : (readEnh bs).Safe fun p => EnhOK p.1.1 p.1.2 := by
  unfold readEnh
  refine (rdByte_safe bs).elim (fun (ind, bs) _ => ?_) fun _ => trivial
  dsimp only
  by_cases h1 : ind.toNat % 8 = 1
  · rw [if_pos h1]
    refine (readRel_safe bs).elim (fun (d, bs) _ => ?_) fun _ => trivial
    dsimp only
    exact (discard_safe 5 bs).elim (fun _ _ (h3 : ind.toNat % 8 = 3) => by omega) fun _ => trivial
  rw [if_neg h1]
  by_cases h2 : ind.toNat % 8 = 2
  · rw [if_pos h2]
    refine (rdByte_safe bs).elim (fun (s, bs) _ => ?_) fun _ => trivial
    dsimp only
    exact (discard_safe 5 bs).elim (fun _ _ (h3 : ind.toNat % 8 = 3) => by omega) fun _ => trivial
  rw [if_neg h2]
  by_cases h3 : ind.toNat % 8 = 3
  · -- hh:mm:ss; after a failed Read the pairs of three zero octets are inspected (evaluated by `trivial`)
    rw [if_pos h3]
    refine (rdN_safe 3 bs).elim (fun (data, r) hl => ?_) fun _ => trivial
    dsimp only at hl ⊢
    split
    · trivial
    · next hne =>
      have hlen : (decodeSemi data).length = 3 := by omega
      simp only [idx_lt, hlen, Nat.reduceLT]
      have := decodeSemi_bound data _ (List.getElem_mem (by omega : 0 < (decodeSemi data).length))
      have := decodeSemi_bound data _ (List.getElem_mem (by omega : 1 < (decodeSemi data).length))
      have := decodeSemi_bound data _ (List.getElem_mem (by omega : 2 < (decodeSemi data).length))
      exact (discard_safe 3 r).elim (fun _ _ _ => by dsimp only; omega) fun _ => trivial
  · rw [if_neg h3]
    exact (discard_safe 6 bs).elim (fun _ _ h => absurd h h3) fun _ => trivial

/-- getType: the two indexings follow a successful Peek(length+3) -/
theorem getType_safe (bs : Bytes) : (getType bs).Safe fun _ => True := by
  unfold getType
  cases bs with
  | nil => trivial
  | cons l r =>
    dsimp only
    split
    · trivial
    · rw [idx_lt _ _ (l.toNat + 1) (by omega), idx_lt _ _ (l.toNat + 2) (by omega)]
      trivial

/-- what Marshal needs of a value: an enhanced validity period within the writer's range (`EnhOK`); every reader
returns values with this property (`stepField_safe`) -/
def FValOK : FVal → Prop
  | .vp (.enh d i) => EnhOK d i
  | _ => True

theorem stepField_safe (rev escs fl f st bs) : (stepField rev escs fl f st bs).Safe fun p => FValOK p.1 := by
  unfold stepField
  cases f.ukind <;> dsimp only
  case byte | flags => exact (rdByte_safe bs).elim (fun _ _ => trivial) fun _ => trivial
  case bytes =>
    refine (rdByte_safe bs).elim (fun (l, r) _ => ?_) fun _ => trivial
    dsimp only
    exact (rdN_safe l.toNat r).elim (fun _ _ => trivial) fun _ => trivial
  case scaddr => exact (readSCAddr_safe rev escs bs).elim (fun _ _ => trivial) fun _ => trivial
  case addr => exact (readAddr_safe rev escs bs).elim (fun _ _ => trivial) fun _ => trivial
  case time => exact (readTime_safe bs).elim (fun _ _ => trivial) fun _ => trivial
  case iface =>
    split
    · exact (readEnh_safe bs).elim (fun _ h => h) fun _ => trivial
    split
    · exact (readRel_safe bs).elim (fun _ _ => trivial) fun _ => trivial
    split
    · exact (readTime_safe bs).elim (fun _ _ => trivial) fun _ => trivial
    · trivial
  case skip => trivial

theorem skippedVal_ok (fl f) : FValOK (skippedVal fl f) := by
  unfold skippedVal
  cases f.ukind <;> simp [zeroOf, FValOK]

theorem unmarshalFields_safe (rev escs fl) : ∀ (fs : List TField) (st : WalkState) (bs : Bytes),
    (unmarshalFields rev escs fl fs st bs).Safe fun vs => ∀ v ∈ vs, FValOK v := by
  intro fs
  induction fs with
  | nil => intro st bs; simp [unmarshalFields, Res.Safe]
  | cons f fs ih =>
    intro st bs
    unfold unmarshalFields
    split
    · exact (ih st bs).elim (fun vs h => List.forall_mem_cons.mpr ⟨skippedVal_ok fl f, h⟩) fun _ => trivial
    · refine (stepField_safe rev escs fl f st bs).elim (fun (v, bs, st) hv => ?_) fun _ => trivial
      dsimp only
      exact (ih st bs).elim (fun vs h => List.forall_mem_cons.mpr ⟨hv, h⟩) fun _ => trivial

theorem packDigits_length (l : List UInt8) : (packDigits l).length = (l.length + 1) / 2 := by
  fun_induction packDigits l with
  | case1 a b r ih => simp [ih]; omega
  | case2 a | case3 => simp

/-- what `toDigits` emits for one chunk below 1000: two digits (with a leading zero below 10), or three -/
theorem chunk_digits {n : Nat} (h : n < 1000) :
    (if (n : Int) < 10 then [(0 : UInt8)] else []) ++ itoaDigits (n : Int) =
      if n < 100 then [UInt8.ofNat (n / 10), UInt8.ofNat (n % 10)]
      else [UInt8.ofNat (n / 100), UInt8.ofNat (n / 10 % 10), UInt8.ofNat (n % 10)] := by
  have hn : ¬ (n : Int) < 0 := by omega
  have e : (n : Int) < 10 ↔ n < 10 := by omega
  simp only [itoaDigits, hn, ↓reduceIte, Int.toNat_natCast, decDigits, h, e]
  by_cases h10 : n < 10
  · simp [h10, show n < 100 by omega, Nat.div_eq_of_lt h10, Nat.mod_eq_of_lt h10]
  · simp [h10]

theorem chunk_digits_length (c : Int) (h0 : 0 ≤ c) (h1 : c < 1000) :
    ((if c < 10 then [(0 : UInt8)] else []) ++ itoaDigits c).length ≤ 3 := by
  obtain ⟨n, rfl⟩ := Int.eq_ofNat_of_zero_le h0
  rw [chunk_digits (by omega)]
  split <;> simp

theorem mkZeros_safe (site : String) (n : Int) (h : 0 ≤ n) : (mkZeros site n).Safe fun _ => True := by
  unfold mkZeros
  rw [if_neg (by omega)]
  trivial

/-- the one computed `make` length, 7-buf.Len(), is not negative: the body is at most six octets -/
theorem writeEnh_safe (d : Nat) (i : UInt8) (h : EnhOK d i) : (writeEnh d i).Safe fun _ => True := by
  unfold writeEnh
  dsimp only
  refine (mkZeros_safe _ _ ?_).elim (fun _ _ => trivial) fun _ => trivial
  rw [List.length_cons]
  by_cases h3 : i.toNat % 8 = 3
  · -- hh:mm:ss: three chunks below 1000 make at most nine digits, five octets
    have hd := h h3
    have c1 := chunk_digits_length ((d / 3600 : Nat) : Int) (by omega) (by omega)
    have c2 := chunk_digits_length (((d / 60 : Nat) : Int) - ((d / 3600 : Nat) : Int) * 60) (by omega) (by omega)
    have c3 := chunk_digits_length ((d : Int) - ((d / 60 : Nat) : Int) * 60) (by omega) (by omega)
    simp only [List.length_append] at c1 c2 c3
    simp only [h3, Nat.reduceEqDiff, ↓reduceIte, encodeSemi, packDigits_length, toDigits, List.append_nil, List.length_append]
    omega
  · rw [if_neg h3]
    split
    · simp
    · split <;> simp

theorem marshalField_safe (env vpf f v) (h : FValOK v) : (marshalField env vpf f v).Safe fun _ => True := by
  unfold marshalField
  split <;> try trivial
  exact writeEnh_safe _ _ h

theorem marshalFields_safe (env vpf) : ∀ (fs : List TField) (vs : List FVal), (∀ v ∈ vs, FValOK v) →
    (marshalFields env vpf fs vs).Safe fun _ => True := by
  intro fs
  induction fs with
  | nil => intro vs _; simp [marshalFields, Res.Safe]
  | cons f fs ih =>
    intro vs hvs
    cases vs with
    | nil => simp [marshalFields, Res.Safe]
    | cons v vs =>
      unfold marshalFields
      refine (marshalField_safe env vpf f v (hvs v (by simp))).elim (fun b _ => ?_) fun _ => trivial
      exact (ih vs fun v hv => hvs v (by simp [hv])).elim (fun _ _ => trivial) fun _ => trivial

theorem typeName_mem (k : Nat) (f : Bool) (n : String) (h : typeName k f = some n) :
    n ∈ ["Deliver", "DeliverReport", "DeliverReportError", "Submit", "SubmitReport", "SubmitReportError",
      "StatusReport", "Command"] := by
  match k, h with
  | 0, h | 1, h | 2, h | 3, h | 4, h | 5, h => cases f <;> cases h <;> simp
  | k + 6, h => simp [typeName] at h

theorem unmarshal_safe (e : Env) (bs : Bytes) : (unmarshal e bs).Safe fun p =>
    p.name ∈ ["Deliver", "DeliverReport", "DeliverReportError", "Submit", "SubmitReport", "SubmitReportError",
      "StatusReport", "Command"] ∧ ∀ v ∈ p.vals, FValOK v := by
  unfold unmarshal
  refine (getType_safe bs).elim (fun (kind, failure) _ => ?_) fun _ => trivial
  dsimp only
  split
  · trivial
  · next n hn =>
    split
    · trivial
    · next L _ =>
      exact (unmarshalFields_safe e.rev e.escs e.flagLayouts L.fields {} bs).elim
        (fun vs h => ⟨typeName_mem _ _ _ hn, h⟩) fun _ => trivial

theorem marshal_safe (e : Env) (p : Tpdu) (h : ∀ v ∈ p.vals, FValOK v) : (marshal e p).Safe fun _ => True := by
  unfold marshal
  split
  · trivial
  · exact marshalFields_safe e _ _ _ h

end Smpp.Sms

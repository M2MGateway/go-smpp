/-
What the decoders return is well-formed (C13): NUL-free strings, bit-field components in
range, canonical maps, a user data header exactly when the UDH indicator was set.  Together
with `unmarshal_marshal` this closes the loop  frame → value → frame' → value' → frame'.
-/
import Smpp.Proofs.Roundtrip

namespace Smpp.Pdu

theorem decAddr_wf {bs : Bytes} {a : Addr} {r : Bytes} (h : decAddr bs = some (a, r)) : NulFree a.no := by
  unfold decAddr at h
  split at h
  · split at h
    · next hrd => cases h; exact (readCStr_some hrd).1
    · cases h
  · cases h

theorem decDestsLoop_wf {n : Nat} {d : Dests} {bs : Bytes} {d' : Dests} {r : Bytes}
    (hd : DestsWF d) (h : decDestsLoop n d bs = some (d', r)) : DestsWF d' := by
  fun_induction decDestsLoop n d bs with
  | case1 => cases h; exact hd
  | case2 n d r a r' ha ih =>
    exact ih ⟨List.forall_mem_append.mpr ⟨hd.1, List.forall_mem_singleton.mpr (decAddr_wf ha)⟩, hd.2⟩ h
  | case3 => cases h
  | case4 n d r s r' hs ih =>
    exact ih ⟨hd.1, List.forall_mem_append.mpr ⟨hd.2, List.forall_mem_singleton.mpr (readCStr_some hs).1⟩⟩ h
  | case5 | case6 => cases h

theorem decDests_wf {bs : Bytes} {d : Dests} {r : Bytes} (h : decDests bs = some (d, r)) : DestsWF d := by
  unfold decDests at h
  split at h
  · cases h
  · exact decDestsLoop_wf ⟨by simp, by simp⟩ h

theorem decUnsuccLoop_wf {n : Nat} {acc : List Unsucc} {bs : Bytes} {l : List Unsucc} {r : Bytes}
    (hacc : ∀ u ∈ acc, NulFree u.addr.no) (h : decUnsuccLoop n acc bs = some (l, r)) :
    ∀ u ∈ l, NulFree u.addr.no := by
  fun_induction decUnsuccLoop n acc bs with
  | case1 => cases h; exact hacc
  | case2 n acc bs a r1 ha st r' _ ih =>
    exact ih (List.forall_mem_append.mpr ⟨hacc, List.forall_mem_singleton.mpr (decAddr_wf ha)⟩) h
  | case3 | case4 => cases h

theorem decUnsucc_wf {bs : Bytes} {l : List Unsucc} {r : Bytes} (h : decUnsucc bs = some (l, r)) :
    ∀ u ∈ l, NulFree u.addr.no := by
  unfold decUnsucc at h
  split at h
  · cases h
  · exact decUnsuccLoop_wf (by simp) h

/-- canonical map with 16-bit keys: what Tags.ReadFrom builds (value lengths are bounded by the
encoder's own guard, see `FValWF_of_pre`) -/
def TagsPre (t : KMap) : Prop := KSorted t ∧ ∀ kv ∈ t, kv.1 < 65536

theorem decTags_wf (acc : KMap) (bs : Bytes) (t : KMap) (hacc : TagsPre acc) (h : decTags acc bs = some t) :
    TagsPre t := by
  fun_induction decTags acc bs with
  | case1 acc => cases h; exact hacc
  | case2 acc t1 t2 l1 l2 r len hlen ih =>
    exact ih (KMap.insert_sorted_lt hacc (rd16 t1 t2).toNat_lt) h
  | case3 => cases h; exact hacc
  | case4 => cases h
  | case5 acc t1 t2 l1 l2 r len hlen hr hlt ih =>
    exact ih (KMap.insert_sorted_lt hacc (rd16 t1 t2).toNat_lt) h
  | case6 => cases h

theorem decUdhLoop_wf (total i : Nat) (acc : KMap) (bs : Bytes) (els : KMap) (r : Bytes)
    (hacc : KSorted acc ∧ ∀ kv ∈ acc, kv.1 < 256) (h : decUdhLoop total i acc bs = some (els, r)) :
    KSorted els ∧ ∀ kv ∈ els, kv.1 < 256 := by
  fun_induction decUdhLoop total i acc bs with
  | case1 i acc hi id l r0 d r' htk ih =>
    exact ih (KMap.insert_sorted_lt hacc id.toNat_lt) h
  | case2 | case3 => cases h
  | case4 => cases h; exact hacc

theorem decSm_wf (rp u : Bool) (bs : Bytes) (m : ShortMsg) (r : Bytes) (h : decSm rp u bs = some (m, r))
    (hbf : rp = false → m.dc ≠ noCoding) : SmWF rp u m := by
  rw [SmWF_iff]
  cases rp
  · have hdc := hbf rfl
    cases u
    · rw [decSm_plain] at h
      split at h
      · obtain ⟨_, _, hm⟩ := Option.map_eq_some_iff.mp h
        cases hm
        exact .inr ⟨rfl, hdc, .inl ⟨rfl, rfl⟩⟩
      · cases h
    · rw [decSm_udh] at h
      split at h
      · split at h
        · next els r3 hloop =>
          obtain ⟨_, _, hm⟩ := Option.map_eq_some_iff.mp h
          cases hm
          exact .inr ⟨rfl, hdc, .inr ⟨rfl, els, rfl, decUdhLoop_wf _ _ _ _ _ _ ⟨.nil, nofun⟩ hloop⟩⟩
        · cases h
      · cases h
  · rw [decSm_replace] at h
    split at h
    · obtain ⟨_, _, hm⟩ := Option.map_eq_some_iff.mp h
      cases hm
      exact .inl ⟨rfl, rfl, rfl⟩
    · cases h

/-- what a decoder arm returns: `FValWF` except that TLV value lengths are not yet bounded -/
def FValPre (rp U : Bool) : FVal → Prop
  | .tags t => TagsPre t
  | .sm m => SmWF rp U m ∧ prepare rp U m = m
  | v => FValWF rp U v

/-- no short message of a non-replace PDU carries the reserved data_coding 0xBF -/
def NoReserved (rp : Bool) (vs : List FVal) : Prop := ∀ m, FVal.sm m ∈ vs → rp = false → m.dc ≠ noCoding

theorem decField_wf (rp u : Bool) (k : Kind) (bs : Bytes) (v : FVal) (r : Bytes) (hk : k ≠ .header)
    (h : decField rp u k bs = some (v, r)) (hbf : ∀ m, v = .sm m → rp = false → m.dc ≠ noCoding) :
    v.hasKind k = true ∧ FValPre rp u v := by
  cases k <;> simp only [decField, Option.map_eq_some_iff, Prod.mk.injEq, Prod.exists] at h
  case header => exact absurd rfl hk
  case cstr => obtain ⟨s, _, hrd, rfl, _⟩ := h; exact ⟨rfl, (readCStr_some hrd).1⟩
  case u8 | bool => obtain ⟨_, _, _, rfl, _⟩ := h; exact ⟨rfl, trivial⟩
  case esm => obtain ⟨c, _, _, rfl, _⟩ := h; exact ⟨rfl, (esm_octets c).2⟩
  case regdlv => obtain ⟨c, _, _, rfl, _⟩ := h; exact ⟨rfl, (regdlv_octets c).2⟩
  case addr => obtain ⟨_, _, ha, rfl, _⟩ := h; exact ⟨rfl, decAddr_wf ha⟩
  case dests => obtain ⟨_, _, ha, rfl, _⟩ := h; exact ⟨rfl, decDests_wf ha⟩
  case unsucc => obtain ⟨_, _, ha, rfl, _⟩ := h; exact ⟨rfl, decUnsucc_wf ha⟩
  case tags => obtain ⟨_, ht, rfl, _⟩ := h; exact ⟨rfl, decTags_wf [] _ _ ⟨.nil, nofun⟩ ht⟩
  case sm =>
    obtain ⟨m, r', hm, rfl, _⟩ := h
    have hw := decSm_wf rp u bs m r' hm (hbf m rfl)
    exact ⟨rfl, hw, prepare_of_wf hw⟩
  case skipped => obtain ⟨rfl, _⟩ := h; exact ⟨rfl, rfl⟩

/-- Only a short message's well-formedness looks at the UDH indicator. -/
theorem FValPre_indep {rp U U' : Bool} {v : FVal} {k : Kind} (hk : v.hasKind k = true) (hsm : k = .sm → U = U') :
    FValPre rp U v → FValPre rp U' v := by
  revert hk
  fun_cases FVal.hasKind v k <;> intro hk
  case case11 => rw [hsm rfl]; exact id  -- the short message
  case case13 => cases hk
  all_goals exact id

theorem decFields_cons_some {rp u : Bool} {f : Field} {fs : List Field} {bs : Bytes} {vs : List FVal}
    (hfk : f.kind ≠ .header) (h : decFields rp u (f :: fs) bs = some vs) :
    ∃ v r vs', decField rp u f.kind bs = some (v, r) ∧ decFields rp (udhiNext u f v) fs r = some vs' ∧
      vs = v :: vs' := by
  rw [decFields, if_neg hfk] at h
  split at h
  · cases h
  · next v r hd =>
    split at h
    · next vs' hr => cases h; exact ⟨v, r, vs', hd, hr, rfl⟩
    · cases h

/-- The induction over the fields after the header: everything decoded is typed and well-formed
with respect to the UDH indicator the finished struct holds. -/
theorem decFields_wf (rp : Bool) : ∀ (fs : List Field) (u : Bool) (bs : Bytes) (vs : List FVal),
    noHeader fs = true → esmOK fs = true → decFields rp u fs bs = some vs → NoReserved rp vs →
    Typed fs vs = true ∧ ∀ x ∈ vs, FValPre rp (if esmAhead fs then udhiOf fs vs else u) x
  | [], _, _, _, _, _, h, _ => by
    simp only [decFields, Option.some.injEq] at h
    subst h
    simp [Typed]
  | f :: fs, u, bs, _, hnh, hesm, h, hbf => by
    obtain ⟨hfk, hnh'⟩ := noHeader_cons.mp hnh
    obtain ⟨v, r, vs', hd, hr, rfl⟩ := decFields_cons_some hfk h
    obtain ⟨hkind, hpre⟩ := decField_wf rp u f.kind bs v r hfk hd fun m hm => hbf m (hm ▸ .head _)
    obtain ⟨hty, hwf⟩ := decFields_wf rp fs _ r vs' hnh' (esmOK_cons.mp hesm).2.2 hr fun m hm => hbf m (.tail _ hm)
    refine ⟨by simp [Typed, hkind, hty], ?_⟩
    show ∀ x ∈ v :: vs', FValPre rp (udhiFinal u (f :: fs) (v :: vs')) x
    intro x hx
    rcases List.mem_cons.mp hx with rfl | hx
    · -- a short message sees the final indicator already; nothing else looks at it
      exact FValPre_indep hkind (fun hsm => (udhiFinal_sm hesm hsm).symm) hpre
    · rw [udhiFinal_cons hesm hkind]; exact hwf x hx

end Smpp.Pdu

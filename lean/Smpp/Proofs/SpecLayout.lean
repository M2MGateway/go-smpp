/-
The model's encoders produce the octets the independent SMPP v5 specification
prescribes (per field kind, then by induction over the fields).
-/
import Smpp.Proofs.Fields
import Smpp.Spec.SmppV5Layout

namespace Smpp.Pdu

theorem esm_spec (e : Esm) (hm : e.mode.toNat < 4) (ht : e.type.toNat < 16) : encEsm e = Spec.esmClass e := by
  have sweep : ∀ (m : Fin 4) (t : Fin 16) (u r : Bool),
      encEsm ⟨.ofNat m, .ofNat t, u, r⟩ = Spec.esmClass ⟨.ofNat m, .ofNat t, u, r⟩ := by decide +kernel
  simpa using sweep ⟨_, hm⟩ ⟨_, ht⟩ e.udhi e.reply

theorem regdlv_spec (g : RegDlv) (h1 : g.mc.toNat < 4) (h2 : g.sme.toNat < 4) (h3 : g.reserved.toNat < 8) :
    encRegDlv g = Spec.registeredDelivery g := by
  have sweep : ∀ (a b : Fin 4) (i : Bool) (r : Fin 8),
      encRegDlv ⟨.ofNat a, .ofNat b, i, .ofNat r⟩ = Spec.registeredDelivery ⟨.ofNat a, .ofNat b, i, .ofNat r⟩ := by
    decide +kernel
  simpa using sweep ⟨_, h1⟩ ⟨_, h2⟩ g.inter ⟨_, h3⟩

theorem be32_int4 (n : UInt32) : be32 n = Spec.int4 n.toNat := by
  simp only [be32, Spec.int4, UInt8.ofNat_mod_size']

theorem be16_int2 {k : Nat} (h : k < 65536) : be16 (UInt16.ofNat k) = Spec.int2 k := by
  simp only [be16, Spec.int2, UInt8.ofNat_mod_size', UInt16.toNat_ofNat_of_lt' h]

theorem encAddr_spec (a : Addr) : encAddr a = Spec.address a := by
  simp [encAddr, Spec.address, encCStr, Spec.cOctet]

theorem encTags_spec (t : KMap) (b : Bytes) (hwf : TagsWF t) (he : encTagsSorted t = .ok b) :
    b = t.flatMap (fun kv => if kv.2.length = 0 then [] else Spec.tlv kv.1 kv.2) := by
  obtain ⟨hlen, rfl⟩ := encTagsSorted_ok_iff.mp he
  clear he hlen
  induction t with
  | nil => rfl
  | cons a t ih =>
    obtain ⟨k, v⟩ := a
    obtain ⟨⟨hk, hv⟩, hwf'⟩ := List.forall_mem_cons.mp hwf.2
    simp only at hk hv
    rw [dropEmpty_cons, List.flatMap_cons, ← ih ⟨(List.pairwise_cons.mp hwf.1).2, hwf'⟩]
    split
    · rfl
    · simp only [List.flatMap_cons, encTlv, Spec.tlv, be16_int2 hk, be16_int2 (show v.length < 65536 by omega)]

theorem encSm_spec (rp U : Bool) (m : ShortMsg) (b : Bytes) (hwf : SmWF rp U m) (he : encSm m = .ok b) :
    b = Spec.shortMessage (!rp) m := by
  obtain ⟨_, u, hu, _, rfl⟩ := encSm_ok_iff.mp he
  have hdc : (m.dc != noCoding) = !rp := by
    rcases SmWF_iff.mp hwf with ⟨rfl, h, _⟩ | ⟨rfl, h, _⟩ <;> simp [h]
  obtain ⟨defId, dc, udh, msg⟩ := m
  rcases udh with _ | els
  · cases hu
    simp [Spec.shortMessage, hdc]
  · obtain ⟨_, _, rfl⟩ := encUdh_some_ok_iff.mp hu
    simp only [Spec.shortMessage, hdc, List.append_assoc]
    rfl

theorem encVal_spec (rp U : Bool) (v : FVal) (b : Bytes) (hwf : FValWF rp U v)
    (he : encVal (afterEnc rp U v) = .ok b) : b = Spec.param rp (afterEnc rp U v) := by
  cases v <;> simp only [afterEnc, encVal, Except.ok.injEq] at he <;> simp only [afterEnc, Spec.param]
  case cstr s => rw [← he]; rfl
  case u8 x => exact he.symm
  case bool x => rw [← he]; cases x <;> rfl
  case header h => exact he.symm
  case esm e => rw [← he, esm_spec e hwf.1 hwf.2]
  case regdlv g => rw [← he, regdlv_spec g hwf.1 hwf.2.1 hwf.2.2]
  case addr a => rw [← he, encAddr_spec]
  case dests d => rw [(encDests_ok_iff.mp he).2]; simp only [encAddr_spec, encCStr, Spec.cOctet]
  case unsucc l => rw [(encUnsucc_ok_iff.mp he).2]; simp only [encAddr_spec, be32_int4]
  case tags t => exact encTags_spec t b hwf he
  case sm m => exact encSm_spec rp U (prepare rp U m) b hwf he
  case skipped n => exact he.symm

theorem encFields_spec (rp U : Bool) : ∀ (vs : List FVal) (bs : Bytes) (vs' : List FVal),
    (∀ v ∈ vs, FValWF rp U v) → encFields rp U vs = .ok (bs, vs') →
    bs = vs'.flatMap (Spec.param rp)
  | [], _, _, _, he => by obtain ⟨rfl, rfl⟩ := encFields_nil_ok.mp he; rfl
  | v :: vs, _, _, hwf, he => by
    obtain ⟨b, bs₂, vs₂, h1, h2, rfl, rfl⟩ := encFields_cons_ok.mp he
    obtain ⟨hv, hvs⟩ := List.forall_mem_cons.mp hwf
    rw [List.flatMap_cons, ← encVal_spec rp U v b hv h1, ← encFields_spec rp U vs bs₂ vs₂ hvs h2]

end Smpp.Pdu

/-
ReadPDU over a chunked stream depends only on the concatenation of the chunks
(the fragmentation quantifier of C03/C04/C16), and consumes exactly
command_length octets whenever the header is acceptable.
-/
import Smpp.Model.Pdu
import Smpp.Proofs.Bytes

namespace Smpp.Pdu

/-! ### the header: sixteen octets, and any sixteen octets are one -/

theorem encHeader_length (h : Header) : (encHeader h).length = 16 := rfl

theorem decHeader_enc (h : Header) (r : Bytes) : decHeader (encHeader h ++ r) = some (h, r) := by
  show some ((⟨rd32 _ _ _ _, rd32 _ _ _ _, rd32 _ _ _ _, rd32 _ _ _ _⟩ : Header), r) = some (h, r)
  rw [rd32_be32, rd32_be32, rd32_be32, rd32_be32]

theorem decHeader_some {bs : Bytes} {hdr : Header} {r : Bytes} :
    decHeader bs = some (hdr, r) ↔ bs = encHeader hdr ++ r := by
  refine ⟨fun h => ?_, fun h => h ▸ decHeader_enc hdr r⟩
  unfold decHeader at h
  split at h
  · simp only [Option.some.injEq] at h
    obtain ⟨rfl, rfl⟩ := h
    simp only [encHeader, be32_rd32, List.cons_append, List.nil_append]
  · cases h

theorem decHeader_none {bs : Bytes} : decHeader bs = none ↔ bs.length < 16 := by
  rcases bs with _ | ⟨a0, _ | ⟨a1, _ | ⟨a2, _ | ⟨a3, _ | ⟨b0, _ | ⟨b1, _ | ⟨b2, _ | ⟨b3, _ | ⟨c0, _ | ⟨c1, _ | ⟨c2, _ | ⟨c3, _ | ⟨d0, _ | ⟨d1, _ | ⟨d2, _ | ⟨d3, r⟩⟩⟩⟩⟩⟩⟩⟩⟩⟩⟩⟩⟩⟩⟩⟩
  -- the sixteen lists that are too short, then the one that is long enough
  iterate 16 exact ⟨fun _ => Nat.le_of_ble_eq_true rfl, fun _ => rfl⟩
  exact ⟨nofun, fun h => by simp only [List.length_cons] at h; omega⟩

structure Frame where
  hdr : Header
  body : Bytes

def Frame.bytes (f : Frame) : Bytes := encHeader f.hdr ++ f.body

/-- intact framing: command_length states the frame size, 16..65536 -/
def Frame.framed (f : Frame) : Prop := f.hdr.len.toNat = 16 + f.body.length ∧ 16 + f.body.length ≤ 65536

/-- what ReadPDU returns for this frame on its own (status 3 is ESME_RINVCMDID) -/
def Frame.result (layouts : List Layout) (f : Frame) : ReadOut :=
  match lookupLayout layouts f.hdr.id.toNat with
  | none => .errNil (.status 3)
  | some L =>
    match unmarshal L f.bytes with
    | some v => .ok L.name v
    | none => .errPdu .unmarshalFailed L.name f.hdr.seq

theorem Frame.bytes_length (f : Frame) : f.bytes.length = 16 + f.body.length := by
  simp [Frame.bytes, encHeader_length]

theorem Frame.result_ok {layouts : List Layout} {f : Frame} {name : String} {v : List FVal}
    (h : f.result layouts = .ok name v) :
    ∃ L ∈ layouts, L.id = f.hdr.id.toNat ∧ L.name = name ∧ unmarshal L f.bytes = some v := by
  unfold Frame.result at h
  split at h
  · cases h
  · next L hl =>
    split at h
    · next hu => cases h; exact ⟨L, List.mem_of_find?_eq_some hl, by simpa using List.find?_some hl, rfl, hu⟩
    · cases h

/-! ### ReadPDU as a function of the octet sequence

`readPDUFlat` is ReadPDU on the concatenation of the chunks: a short input, or a header followed
by `readBody`. -/

/-- ReadPDU once the header `hdr` has been read, `r` being the octets that follow:
(result, octets consumed, octets left, allocation log); status 2 is ESME_RINVCMDLEN. -/
def readBody (layouts : List Layout) (hdr : Header) (r : Bytes) : ReadOut × Nat × Bytes × List Nat :=
  let n := hdr.len.toNat - 16
  if hdr.len.toNat < 16 ∨ hdr.len.toNat > 65536 then (.errNil (.status 2), 16, r, [])
  else if r.length < n then (.errNil (.status 2), 16 + r.length, [], [n])
  else (Frame.result layouts ⟨hdr, r.take n⟩, 16 + n, r.drop n, [n])

def readPDUFlat (layouts : List Layout) (bs : Bytes) : ReadOut × Nat × Bytes × List Nat :=
  match decHeader bs with
  | some (hdr, r) => readBody layouts hdr r
  | none => (.errNil (if bs.length = 0 then .eof else .ueof), bs.length, [], [])

theorem readPDUFlat_short (layouts : List Layout) {bs : Bytes} (h : bs.length < 16) :
    readPDUFlat layouts bs = (.errNil (if bs.length = 0 then .eof else .ueof), bs.length, [], []) := by
  simp only [readPDUFlat, decHeader_none.mpr h]

theorem readPDUFlat_header (layouts : List Layout) (hdr : Header) (r : Bytes) :
    readPDUFlat layouts (encHeader hdr ++ r) = readBody layouts hdr r := by
  simp only [readPDUFlat, decHeader_enc]

theorem short_or_header (bs : Bytes) : bs.length < 16 ∨ ∃ hdr r, bs = encHeader hdr ++ r := by
  cases hd : decHeader bs with
  | none => exact .inl (decHeader_none.mp hd)
  | some p => exact .inr ⟨p.1, p.2, decHeader_some.mp hd⟩

/-- **Fragmentation independence**: result, octets taken, octets left and allocations are those of
the flat sequence, because each `io.ReadFull` sees only the concatenation (`readFull_flat`). -/
theorem readPDU_eq_flat (layouts : List Layout) (s : Stream) :
    ((readPDU layouts s).out, (readPDU layouts s).consumed, (readPDU layouts s).rest.flatten,
      (readPDU layouts s).allocs) = readPDUFlat layouts s.flatten := by
  obtain ⟨hA, hS⟩ := readFull_flat 16 s
  rcases short_or_header s.flatten with hlt | ⟨hdr, r, hF⟩
  · -- the first ReadFull returns all there is
    rw [List.take_of_length_le (by omega)] at hA
    rw [List.drop_of_length_le (by omega)] at hS
    rw [readPDUFlat_short layouts hlt]
    simp only [readPDU, hA, hlt, ↓reduceIte]
    split
    · next h0 => simp only [hS, h0]
    · simp only [hS]
  · -- the first returns the header and leaves `r`, of which the second takes the body
    rw [hF, List.take_left' (encHeader_length hdr)] at hA
    rw [hF, List.drop_left' (encHeader_length hdr)] at hS
    obtain ⟨hB, hS2⟩ := readFull_flat (hdr.len.toNat - 16) (readFull 16 s).2
    rw [hS] at hB hS2
    have hdh : decHeader (encHeader hdr) = some (hdr, []) := by simpa using decHeader_enc hdr []
    rw [hF, readPDUFlat_header]
    simp only [readPDU, readBody, hA, hB, hdh, encHeader_length, List.length_take, Bool.or_eq_true, decide_eq_true_eq,
      Nat.reduceEqDiff, Nat.lt_irrefl, ↓reduceIte]
    split
    · simp only [hS]
    · next hbad =>
      by_cases hcut : r.length < hdr.len.toNat - 16
      · simp only [Nat.min_eq_right (Nat.le_of_lt hcut), hcut, ↓reduceIte, hS2,
          List.drop_of_length_le (Nat.le_of_lt hcut)]
      · have hlen : 16 + (hdr.len.toNat - 16) = hdr.len.toNat := by omega
        simp only [Nat.min_eq_left (Nat.not_lt.mp hcut), Nat.lt_irrefl, hcut, ↓reduceIte, Frame.result, Frame.bytes,
          hlen]
        split
        · next hl => simp only [hl, hS2]
        · next L hl => split <;> next hu => simp only [hl, hu, hS2]

theorem readPDU_out (layouts : List Layout) (s : Stream) :
    (readPDU layouts s).out = (readPDUFlat layouts s.flatten).1 := by
  rw [← readPDU_eq_flat]

theorem readPDU_chunk_indep (layouts : List Layout) (s s' : Stream) (h : s.flatten = s'.flatten) :
    (readPDU layouts s).out = (readPDU layouts s').out ∧
    (readPDU layouts s).consumed = (readPDU layouts s').consumed ∧
    (readPDU layouts s).rest.flatten = (readPDU layouts s').rest.flatten := by
  have h1 := readPDU_eq_flat layouts s
  rw [h, ← readPDU_eq_flat layouts s'] at h1
  simp only [Prod.mk.injEq] at h1
  exact ⟨h1.1, h1.2.1, h1.2.2.1⟩

theorem readAll_chunk_indep (layouts : List Layout) (fuel : Nat) (s s' : Stream) (h : s.flatten = s'.flatten) :
    readAll layouts fuel s = readAll layouts fuel s' := by
  induction fuel generalizing s s' with
  | zero => rfl
  | succ n ih =>
    obtain ⟨ho, _, hr⟩ := readPDU_chunk_indep layouts s s' h
    simp only [readAll]
    rw [ho]
    split
    · rw [ih _ _ hr]
    · rfl

/-- C04's bounds: octets consumed, number and size of allocations (65520 = 65536 − 16, the body buffer). -/
theorem readPDU_bounds (layouts : List Layout) (s : Stream) :
    (readPDU layouts s).consumed ≤ 65536 ∧ (readPDU layouts s).consumed ≤ s.flatten.length ∧
    (readPDU layouts s).allocs.length ≤ 1 ∧ ∀ n ∈ (readPDU layouts s).allocs, n ≤ 65520 := by
  have h := readPDU_eq_flat layouts s
  simp only [Prod.ext_iff] at h
  rw [h.2.1, h.2.2.2]
  generalize s.flatten = bs
  rcases short_or_header bs with hs | ⟨hdr, r, rfl⟩
  · rw [readPDUFlat_short layouts hs]
    simp; omega
  · rw [readPDUFlat_header, readBody, List.length_append, encHeader_length]
    split
    · simp
    · split <;> simp <;> omega

theorem readPDU_ok {layouts : List Layout} {s : Stream} {name : String} {v : List FVal}
    (h : (readPDU layouts s).out = .ok name v) : ∃ f : Frame, f.result layouts = .ok name v := by
  rw [readPDU_out] at h
  rcases short_or_header s.flatten with hs | ⟨hdr, r, hb⟩
  · rw [readPDUFlat_short layouts hs] at h; cases h
  · rw [hb, readPDUFlat_header, readBody] at h
    split at h
    · cases h
    · split at h
      · cases h
      · exact ⟨_, h⟩

theorem readPDU_classify (layouts : List Layout) (s : Stream) :
    (∃ e, (readPDU layouts s).out = .errNil e) ∨
    (∃ e n q, (readPDU layouts s).out = .errPdu e n q) ∨
    (∃ L v, L ∈ layouts ∧ (readPDU layouts s).out = .ok L.name v) := by
  cases h : (readPDU layouts s).out with
  | errNil e => exact .inl ⟨e, rfl⟩
  | errPdu e n q => exact .inr (.inl ⟨e, n, q, rfl⟩)
  | ok name v =>
    obtain ⟨f, hres⟩ := readPDU_ok h
    obtain ⟨L, hmem, _, rfl, _⟩ := Frame.result_ok hres
    exact .inr (.inr ⟨L, v, hmem, rfl⟩)

theorem readPDU_bad_length (layouts : List Layout) (s : Stream) (hdr : Header) (r : Bytes)
    (hs : s.flatten = encHeader hdr ++ r) (hbad : hdr.len.toNat < 16 ∨ hdr.len.toNat > 65536) :
    (readPDU layouts s).out = .errNil (.status 2) ∧ (readPDU layouts s).consumed = 16 ∧
      (readPDU layouts s).allocs = [] := by
  have h := readPDU_eq_flat layouts s
  rw [hs, readPDUFlat_header, readBody, if_pos hbad] at h
  simp only [Prod.mk.injEq] at h
  exact ⟨h.1, h.2.1, h.2.2.2⟩

/-- Exact consumption, whether or not the body decodes or the command_id is known (`Frame.result`
covers the three outcomes). -/
theorem readPDU_framed (layouts : List Layout) (f : Frame) (hf : f.framed) (s : Stream) (tail : Bytes)
    (hs : s.flatten = f.bytes ++ tail) :
    (readPDU layouts s).out = f.result layouts ∧ (readPDU layouts s).consumed = f.bytes.length ∧
    (readPDU layouts s).rest.flatten = tail := by
  obtain ⟨h1, h2⟩ := hf
  have hn : f.hdr.len.toNat - 16 = f.body.length := by omega
  have h := readPDU_eq_flat layouts s
  rw [hs, Frame.bytes, List.append_assoc, readPDUFlat_header, readBody, if_neg (by omega)] at h
  simp only [hn, List.length_append, Nat.not_lt.mpr (Nat.le_add_right _ _), ↓reduceIte, List.take_left',
    List.drop_left', Prod.mk.injEq] at h
  exact ⟨h.1, h.2.1.trans f.bytes_length.symm, h.2.2.1⟩

theorem readPDU_truncated (layouts : List Layout) (f : Frame) (k : Nat)
    (hlen : f.hdr.len.toNat = 16 + f.body.length) (hk0 : 0 < k) (hk : k < f.bytes.length)
    (s : Stream) (hs : s.flatten = f.bytes.take k) :
    (readPDU layouts s).out = .errNil .ueof ∨ (readPDU layouts s).out = .errNil (.status 2) := by
  rw [readPDU_out, hs]
  rw [Frame.bytes_length] at hk
  by_cases hk16 : k < 16
  · have hl : (f.bytes.take k).length = k := by rw [List.length_take, Frame.bytes_length]; omega
    rw [readPDUFlat_short layouts (by omega), hl, if_neg (by omega)]
    exact .inl rfl
  · rw [Frame.bytes, List.take_append, encHeader_length, List.take_of_length_le (by rw [encHeader_length]; omega),
      readPDUFlat_header, readBody]
    split
    · exact .inr rfl
    · rw [if_pos (by rw [List.length_take]; omega)]
      exact .inr rfl

theorem readAll_frames (layouts : List Layout) (fs : List Frame) (s : Stream)
    (hall : ∀ f ∈ fs, f.framed ∧ ∃ n v, f.result layouts = .ok n v)
    (hs : s.flatten = (fs.map Frame.bytes).flatten) :
    readAll layouts (fs.length + 1) s = fs.map (Frame.result layouts) ++ [.errNil .eof] := by
  induction fs generalizing s with
  | nil =>
    have ho : (readPDU layouts s).out = .errNil .eof := by
      rw [readPDU_out, hs, readPDUFlat_short layouts (by decide)]; rfl
    simp [readAll, ho]
  | cons f fs ih =>
    obtain ⟨⟨hfr, n, v, hres⟩, hall'⟩ := List.forall_mem_cons.mp hall
    obtain ⟨ho, _, hr⟩ := readPDU_framed layouts f hfr s _ hs
    have hrec := ih (readPDU layouts s).rest hall' hr
    simp only [List.length_cons, readAll, ho, hres, List.map_cons, List.cons_append, hrec]

end Smpp.Pdu
